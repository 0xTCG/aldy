import Aldy.Model.Catalogue
import Aldy.Lemmas.Keyed
import Std.Data.String.ToNat

/-!
# C09, continued — major alleles get pairwise different names

`_init_alleles` names the groups one after the other (`nameStep`: prefix of the smallest
member, else label / full name, else `name:k` with a per-name counter) and then stores the major
alleles in a dictionary under these names - two groups with one name would silently overwrite
each other (a database allele would no longer be reachable).  The hypothesis throughout, prefixes
and fallbacks without `:`, is checked per database by the harness and true of every shipped one.
-/

namespace Aldy

def noColon (s : String) : Prop := ':' ∉ s.toList

theorem suffixed_toList (b : String) (k : Nat) :
    (b ++ ":" ++ toString k).toList = b.toList ++ ':' :: (toString k).toList := by
  simp [String.toList_append]

theorem suffixed_has_colon (b : String) (k : Nat) : ¬ noColon (b ++ ":" ++ toString k) := by
  unfold noColon
  rw [suffixed_toList]
  simp

theorem split_at_colon (a b s t : List Char) (ha : ':' ∉ a) (hb : ':' ∉ b)
    (h : a ++ ':' :: s = b ++ ':' :: t) : a = b ∧ s = t := by
  induction a generalizing b with
  | nil =>
    cases b with
    | nil => exact ⟨rfl, (List.cons.inj h).2⟩
    | cons y ys => exact absurd ((List.cons.inj h).1 ▸ List.mem_cons_self) hb
  | cons x xs ih =>
    cases b with
    | nil => exact absurd ((List.cons.inj h).1 ▸ List.mem_cons_self) ha
    | cons y ys =>
      obtain ⟨rfl, h'⟩ := List.cons.inj h
      obtain ⟨rfl, rfl⟩ := ih ys (fun hh => ha (List.mem_cons_of_mem _ hh)) (fun hh => hb (List.mem_cons_of_mem _ hh)) h'
      exact ⟨rfl, rfl⟩

theorem suffixed_inj (b b' : String) (k k' : Nat) (hb : noColon b) (hb' : noColon b')
    (h : b ++ ":" ++ toString k = b' ++ ":" ++ toString k') : b = b' ∧ k = k' := by
  have h2 := congrArg String.toList h
  rw [suffixed_toList, suffixed_toList] at h2
  obtain ⟨h3, h4⟩ := split_at_colon _ _ _ _ hb hb' h2
  exact ⟨String.toList_injective h3, Nat.repr_injective (String.toList_injective h4)⟩

/-- invariant of the dictionary `used_names`: keys are distinct; a key is either colon-free or
`b:k` for a colon-free key `b` whose counter is at least `k` -/
structure UsedInv (used : List (String × Nat)) : Prop where
  nodup : (used.map (·.1)).Nodup
  shape : ∀ e ∈ used, noColon e.1 ∨
    ∃ b k c, noColon b ∧ e.1 = b ++ ":" ++ toString k ∧ (b, c) ∈ used ∧ k ≤ c

theorem UsedInv.extend {used used' : List (String × Nat)} {n : String} (hi : UsedInv used)
    (hkeys : used'.map (·.1) = used.map (·.1))
    (hmono : ∀ b c, (b, c) ∈ used → ∃ c', c ≤ c' ∧ (b, c') ∈ used')
    (hfresh : n ∉ used.map (·.1))
    (hn : noColon n ∨ ∃ b k c, noColon b ∧ n = b ++ ":" ++ toString k ∧ (b, c) ∈ used' ∧ k ≤ c) :
    UsedInv (used' ++ [(n, 1)]) := by
  refine ⟨?_, fun e he => ?_⟩
  · exact nodup_keys_append (hkeys ▸ hi.nodup) (hkeys ▸ hfresh) 1
  · -- a witness `(b, c)` in `used'` is one in the extended dictionary
    suffices h : noColon e.1 ∨ ∃ b k c, noColon b ∧ e.1 = b ++ ":" ++ toString k ∧ (b, c) ∈ used' ∧ k ≤ c from
      h.imp_right fun ⟨b, k, c, hb, hx, hbc, hkc⟩ => ⟨b, k, c, hb, hx, List.mem_append_left _ hbc, hkc⟩
    rcases List.mem_append.mp he with he | he
    · have hmem : e.1 ∈ used.map (·.1) := hkeys ▸ List.mem_map_of_mem he
      obtain ⟨e0, he0, hk⟩ := List.mem_map.mp hmem
      rw [← hk]
      refine (hi.shape e0 he0).imp_right fun ⟨b, k, c, hb, hx, hbc, hkc⟩ => ?_
      obtain ⟨c', hcc, hbc'⟩ := hmono b c hbc
      exact ⟨b, k, c', hb, hx, hbc', Nat.le_trans hkc hcc⟩
    · rw [List.mem_singleton.mp he]; exact hn

theorem nameStep_keys (used : List (String × Nat)) (n0 fb : String) :
    (nameStep used n0 fb).1.map (·.1) = used.map (·.1) ++ [(nameStep used n0 fb).2] := by
  unfold nameStep
  dsimp only
  generalize (if used.any (·.1 == n0) then fb else n0) = n1
  split
  · rw [List.map_append, map_fst_map_ite]; rfl
  · rw [List.map_append]; rfl

/-- **nameStep_spec** one naming step keeps the invariant, hands out a name that was not in use,
registers it, and forgets no earlier name. -/
theorem nameStep_spec (used : List (String × Nat)) (n0 fb : String) (h0 : noColon n0) (hf : noColon fb)
    (hi : UsedInv used) :
    UsedInv (nameStep used n0 fb).1 ∧
    (nameStep used n0 fb).2 ∉ used.map (·.1) ∧
    (nameStep used n0 fb).2 ∈ (nameStep used n0 fb).1.map (·.1) ∧
    (∀ x ∈ used.map (·.1), x ∈ (nameStep used n0 fb).1.map (·.1)) := by
  have hkeys := nameStep_keys used n0 fb
  suffices h : UsedInv (nameStep used n0 fb).1 ∧ (nameStep used n0 fb).2 ∉ used.map (·.1) from
    ⟨h.1, h.2, hkeys ▸ List.mem_append_right _ List.mem_cons_self, fun x hx => hkeys ▸ List.mem_append_left _ hx⟩
  clear hkeys
  unfold nameStep
  dsimp only
  generalize hn1 : (if used.any (·.1 == n0) then fb else n0) = n1
  have hc1 : noColon n1 := by rw [← hn1]; split <;> assumption
  split
  · -- the candidate is taken: it is a key `(n1, c1)`, and the name is `n1:(c1 + 1)`
    next hused =>
    obtain ⟨c1, hl⟩ := Option.isSome_iff_exists.mp ((any_key_eq_isSome used n1).symm.trans hused)
    rw [hl, Option.getD_some]
    have he1 : (n1, c1) ∈ used := mem_of_lookup_eq_some hl
    have huniq : ∀ {c}, (n1, c) ∈ used → c = c1 := fun h =>
      Option.some.inj ((lookup_of_mem_nodup_keys hi.nodup h).symm.trans hl)
    -- an old key `b:k` has `k` at most the counter of `b`, which for `n1` is `c1`
    have hfresh : n1 ++ ":" ++ toString (c1 + 1) ∉ used.map (·.1) := by
      intro hin
      obtain ⟨e, he, hek⟩ := List.mem_map.mp hin
      rcases hi.shape e he with hnc | ⟨b, k, c, hb, hek2, hbc, hkc⟩
      · exact suffixed_has_colon _ _ (hek ▸ hnc)
      · obtain ⟨rfl, rfl⟩ := suffixed_inj _ _ _ _ hc1 hb (hek ▸ hek2)
        exact Nat.not_succ_le_self c1 (huniq hbc ▸ hkc)
    have hnew : (n1, c1 + 1) ∈ used.map fun e => if e.1 == n1 then (e.1, c1 + 1) else e :=
      List.mem_map.mpr ⟨_, he1, if_pos (beq_self_eq_true n1)⟩
    refine ⟨hi.extend (map_fst_map_ite used _ _) (fun b c hbc => ?_) hfresh
      (Or.inr ⟨n1, c1 + 1, c1 + 1, hc1, rfl, hnew, Nat.le_refl _⟩), hfresh⟩
    by_cases hb : b = n1
    · subst hb
      exact ⟨c1 + 1, huniq hbc ▸ Nat.le_succ c1, List.mem_map.mpr ⟨_, hbc, if_pos (beq_self_eq_true b)⟩⟩
    · exact ⟨c, Nat.le_refl c, List.mem_map.mpr ⟨_, hbc, if_neg (by simpa using hb)⟩⟩
  · next hused =>
    have hfresh : n1 ∉ used.map (·.1) := fun hh => hused (any_key_of_mem_keys hh)
    exact ⟨hi.extend rfl (fun b c hbc => ⟨c, Nat.le_refl c, hbc⟩) hfresh (Or.inl hc1), hfresh⟩

/-- **names_injective** the names handed out to the groups are pairwise different and none
of them was in use before - for any number of groups competing for one prefix or one label. -/
theorem assignNames_nodup (cands : List (String × String)) (used : List (String × Nat))
    (hc : ∀ c ∈ cands, noColon c.1 ∧ noColon c.2) (hi : UsedInv used) :
    (assignNames cands used).Nodup ∧ ∀ x ∈ assignNames cands used, x ∉ used.map (·.1) := by
  induction cands generalizing used with
  | nil => exact ⟨List.nodup_nil, fun x hx => by cases hx⟩
  | cons c rest ih =>
    obtain ⟨hc1, hc2⟩ := hc c List.mem_cons_self
    obtain ⟨hinv, hfresh, hreg, hmono⟩ := nameStep_spec used c.1 c.2 hc1 hc2 hi
    obtain ⟨hnd, hout⟩ := ih (nameStep used c.1 c.2).1 (fun c' h' => hc c' (List.mem_cons_of_mem _ h')) hinv
    simp only [assignNames]
    refine ⟨List.nodup_cons.mpr ⟨fun hin => hout _ hin hreg, hnd⟩, ?_⟩
    intro x hx
    rcases List.mem_cons.mp hx with h1 | h1
    · rw [h1]; exact hfresh
    · exact fun hin => hout x h1 (hmono x hin)

theorem usedInv_nil : UsedInv [] := ⟨List.nodup_nil, fun _ h => by cases h⟩

/-! Non-vacuity: three groups competing for one prefix and one label -/
example : assignNames [("3", "3"), ("3", "3"), ("3", "3"), ("3", "3B")] [] = ["3", "3:2", "3:3", "3B"] := by decide +kernel
example : noColon "3" ∧ noColon "3B" := by unfold noColon; decide

end Aldy
