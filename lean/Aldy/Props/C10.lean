import Aldy.Model.Select
import Aldy.Lemmas.SortStable
import Mathlib.Data.Rat.Floor
import Mathlib.Tactic.NormNum

/-!
# C10 — reported solutions are the best candidates and are internally consistent

Theorems about `selectStage` and `carryMajor` (model of genotype.py 237-335).  Of `rescaleMinor` only the factor it
multiplies by is treated (`rescale_factor_ge_one`); there is no theorem about `carryMinorStage`.
-/

namespace Aldy
open Const

/-- `minScore (x :: xs)` is this fold over `xs`, started from `some x.score` -/
theorem minScore_fold (l : List Cand) (a : Rat) :
    ∃ r, l.foldl (fun acc c => match acc with
        | none => some c.score
        | some m => some (if c.score < m then c.score else m)) (some a) = some r ∧
      r ≤ a ∧ ∀ c ∈ l, r ≤ c.score := by
  induction l generalizing a with
  | nil => exact ⟨a, rfl, le_refl a, fun _ hc => absurd hc List.not_mem_nil⟩
  | cons x xs ih =>
    obtain ⟨r, hr, hle, hall⟩ := ih (if x.score < a then x.score else a)
    have hmin : r ≤ x.score ∧ r ≤ a := by
      split_ifs at hle with hlt
      · exact ⟨hle, hle.trans hlt.le⟩
      · exact ⟨hle.trans (not_lt.mp hlt), hle⟩
    exact ⟨r, hr, hmin.2, List.forall_mem_cons.mpr ⟨hmin.1, hall⟩⟩

theorem minScore_le (cs : List Cand) (m : Rat) (h : minScore cs = some m) : ∀ c ∈ cs, m ≤ c.score := by
  cases cs with
  | nil => cases h
  | cons x xs =>
    obtain ⟨r, hr, hle, hall⟩ := minScore_fold xs x.score
    cases hr.symm.trans h
    exact List.forall_mem_cons.mpr ⟨hle, hall⟩

theorem minScore_none (cs : List Cand) : minScore cs = none ↔ cs = [] := by
  cases cs with
  | nil => exact ⟨fun _ => rfl, fun _ => rfl⟩
  | cons x xs =>
    obtain ⟨r, hr, _⟩ := minScore_fold xs x.score
    constructor
    · intro h; cases hr.symm.trans h
    · intro h; cases h

/-- **select_exact** the selected list consists of exactly the candidates whose score lies
within `gap + SOLUTION_PRECISION` of the best score - nothing dropped, nothing added,
multiplicities kept. -/
theorem select_exact (cs : List Cand) (gap m : Rat) (h : minScore cs = some m) :
    (selectStage cs gap).Perm (cs.filter fun c => decide (c.score - m - gap < SOLUTION_PRECISION)) := by
  unfold selectStage
  rw [h]
  exact sortStable_perm _ _

/-- **select_best_kept** the best candidate is always among the selected ones (gap ≥ 0). -/
theorem select_best_kept (cs : List Cand) (gap m : Rat) (h : minScore cs = some m) (hgap : 0 ≤ gap)
    (c : Cand) (hc : c ∈ cs) (hbest : c.score = m) : c ∈ selectStage cs gap := by
  have : 0 < SOLUTION_PRECISION := by unfold SOLUTION_PRECISION; norm_num
  refine (select_exact cs gap m h).mem_iff.mpr (List.mem_filter.mpr ⟨hc, decide_eq_true ?_⟩)
  rw [hbest, sub_self, zero_sub]
  exact (neg_nonpos.mpr hgap).trans_lt this

/-- **select_empty** a stage without candidates selects nothing (the code raises). -/
theorem select_empty (gap : Rat) : selectStage [] gap = [] := rfl

theorem candLt_refines : Refines candLt (fun a b => truncKey a.score ≤ truncKey b.score) where
  trans := Int.le_trans
  of_lt {a b} h := by
    simp only [candLt, Bool.or_eq_true, decide_eq_true_eq, Bool.and_eq_true, beq_iff_eq] at h
    exact h.elim le_of_lt fun h => le_of_eq h.1
  of_not_lt {a b} h := by
    simp only [candLt, Bool.or_eq_false_iff, decide_eq_false_iff_not, not_lt] at h
    exact h.1

theorem lt_add_one_of_floor_le {x y : Rat} (h : x.floor ≤ y.floor) : x < y + 1 :=
  calc x < ((y.floor + 1 : Int) : Rat) := Rat.floor_lt_iff.mp (Int.lt_add_one_iff.mpr h)
    _ = y.floor + 1 := Int.cast_add _ _
    _ ≤ y + 1 := add_le_add_left (Rat.floor_le y) 1

theorem truncKey_le_imp (a b : Rat) (ha : 0 ≤ a) (hb : 0 ≤ b) (h : truncKey a ≤ truncKey b) :
    a < b + 1 / SORT_SCALE := by
  have hs : (0 : Rat) < SORT_SCALE := by unfold SORT_SCALE; norm_num
  -- `truncKey` truncates towards zero, so it is a floor only for non-negative scores
  unfold truncKey at h
  rw [if_pos ha, if_pos hb] at h
  refine lt_of_mul_lt_mul_left ?_ hs.le
  rw [mul_add, mul_one_div_cancel hs.ne']
  exact lt_add_one_of_floor_le h

/-- **select_sorted** "best first" up to the code's own sort resolution: for `i < j` in the
reported list, `scoreᵢ < scoreⱼ + 1/1000` (scores are non-negative objective values). -/
theorem select_sorted (cs : List Cand) (gap : Rat) (hnn : ∀ c ∈ cs, 0 ≤ c.score) :
    (selectStage cs gap).Pairwise fun a b => a.score < b.score + 1 / SORT_SCALE := by
  cases h : minScore cs with
  | none => rw [selectStage, h]; exact List.Pairwise.nil
  | some m =>
    have hmem : ∀ c ∈ selectStage cs gap, 0 ≤ c.score := fun c hc =>
      hnn c (List.mem_filter.mp ((select_exact cs gap m h).mem_iff.mp hc)).1
    have hs : (selectStage cs gap).Pairwise fun a b => truncKey a.score ≤ truncKey b.score := by
      rw [selectStage, h]; exact sortStable_pairwise candLt_refines _
    exact (List.Pairwise.and_mem.mp hs).imp fun hab =>
      truncKey_le_imp _ _ (hmem _ hab.1) (hmem _ hab.2.1) hab.2.2

/-- the sort resolution is finer than the solution precision (regenerated constants) -/
theorem sort_resolution_below_precision : 1 / SORT_SCALE < SOLUTION_PRECISION := by
  unfold SORT_SCALE SOLUTION_PRECISION; norm_num

/-- **score_carry_major** a major candidate's score is its own objective plus the score
difference of the structure it was derived from. -/
theorem score_carry_major (cnSorted : List Cand) (majors : List (List Cand)) (mcn : Rat)
    (h : minScore cnSorted = some mcn) (c : Cand) (hc : c ∈ carryMajor cnSorted majors) :
    ∃ cn ∈ cnSorted, ∃ raw : Cand, c.score = raw.score + (cn.score - mcn) ∧ c.nice = raw.nice := by
  unfold carryMajor at hc
  rw [h] at hc
  simp only [List.mem_flatMap, List.mem_map] at hc
  obtain ⟨e, he, raw, _, rfl⟩ := hc
  have hmem : e.1 ∈ cnSorted.zip majors := (List.of_mem_zip (List.zipIdx_eq_zip_range' .. ▸ he)).1
  exact ⟨e.1.1, (List.of_mem_zip hmem).1, raw, rfl, rfl⟩

/-- **rescale_factor_ge_one** the final rescaling multiplies the score of a candidate by a
factor ≥ 1 (`cn`: score of its structure, `mcn`: the best structure score). -/
theorem rescale_factor_ge_one (cn mcn : Rat) (h : mcn ≤ cn) (h0 : 0 ≤ mcn) :
    1 ≤ (cn + SLACK) / (mcn + SLACK) :=
  (one_le_div (add_pos_of_nonneg_of_pos h0 (by unfold SLACK; norm_num))).mpr (add_le_add_left h SLACK)

example : selectStage [⟨3/2, "b", 0⟩, ⟨1, "a", 0⟩, ⟨7/4, "c", 0⟩] (1/2) = [⟨1, "a", 0⟩, ⟨3/2, "b", 0⟩] := by decide +kernel
example : selectStage [⟨1, "b", 0⟩, ⟨1, "a", 0⟩] 0 = [⟨1, "a", 0⟩, ⟨1, "b", 0⟩] := by decide +kernel

end Aldy
