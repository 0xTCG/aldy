import Aldy.Props.C04Score
import Aldy.Model.Planted
import Mathlib.Data.List.Nodup

/-!
# C01, refinement stage — zero-error evidence is refined to the planted minor alleles

*If* some feasible point of `MinorInst.build` scores 0, every optimum is exact on every considered
variant (`minor_optima_exact`).  The premise holds for **every** instance whose evidence meets the
decidable clauses `PlantedMinor`: the closed-form point `MinorInst.zeroσ` satisfies all fourteen
constraint families of the model, and its objective is 0.
-/

namespace Aldy
open MinorInst

/-- **minor_objective_ge_error** the miss, add, novel-core and phase terms of the objective are never
negative -/
theorem minor_objective_ge_error (I : MinorInst) (σ : NVar → Rat) (h : I.build.Sat σ)
    (hmiss : 0 ≤ I.minorMiss) (hadd : 0 ≤ I.minorAdd) (hph : 0 ≤ I.minorPhase)
    (hdef : ∀ cs ∈ I.slots, ∀ m ∈ cs.1.defMuts, m ∈ I.mutations) :
    (I.errRows.map fun m => |σ (.E m)|).sum ≤ I.build.objective σ := by
  have hf := sat_iff.mp h
  rw [minor_score_closed_form]
  have e1 := sum_map_le I.errRows (fun m => |σ (.E m)|) (fun m => σ (.ABS m)) hf.abs
  -- the dropped and the phase summands are indicators (Props/C04Score)
  have e2 := mul_nonneg hmiss (sum_map_nonneg I.slots _ fun cs hcs => sum_map_nonneg cs.1.defMuts
    (fun m => σ (.A cs.2) - σ (.MULK m cs.2)) fun m hm => by
      rw [minor_dropped_term I σ h cs hcs m hm (hdef cs hcs m hm)]
      exact (isBin_ite _).nonneg)
  have e3 := sum_map_nonneg I.newSelectors.zipIdx
    (fun e => I.minorAdd * (1 + (e.2 : Rat) / Const.MINOR_TIEBREAK_DIV) * σ (.N e.1.1 e.1.2)) fun e he =>
      mul_nonneg (mul_nonneg hadd (add_nonneg zero_le_one (div_nonneg (Nat.cast_nonneg _) tiebreak_div_pos.le)))
        (hf.binNew (List.fst_mem_of_mem_zipIdx he)).nonneg
  have e4 := mul_nonneg (div_nonneg hadd novel_div_pos.le)
    (sumVars_nonneg σ (I.novelMuts.map NVar.VNEWOR) (List.forall_mem_map.mpr hf.binVNEWOR))
  have e5 := mul_nonneg hph (sum_map_nonneg I.phaseCells _ fun c hc => by
    obtain ⟨tPos, tNeg⟩ := minor_phase_terms I σ h c hc
    refine mul_nonneg (Nat.cast_nonneg c.cnt) (add_nonneg
      (sum_map_nonneg c.pos.zipIdx (fun vi => σ (.PH c.ai c.ri) - σ (.PH2 c.ai c.ri vi.2)) fun vi hvi => ?_)
      (sum_map_nonneg c.neg.zipIdx (fun vi => σ (.PH3 c.ai c.ri vi.2)) fun vi hvi => ?_))
    · rw [tPos vi hvi]
      exact (isBin_ite _).nonneg
    · rw [tNeg vi hvi]
      exact (isBin_ite _).nonneg)
  exact le_add_of_le_of_nonneg
    (le_add_of_le_of_nonneg (le_add_of_le_of_nonneg (le_add_of_le_of_nonneg e1 e2) e3) e4) e5

/-- **minor_objective_nonneg** -/
theorem minor_objective_nonneg (I : MinorInst) (σ : NVar → Rat) (h : I.build.Sat σ)
    (hmiss : 0 ≤ I.minorMiss) (hadd : 0 ≤ I.minorAdd) (hph : 0 ≤ I.minorPhase)
    (hdef : ∀ cs ∈ I.slots, ∀ m ∈ cs.1.defMuts, m ∈ I.mutations) :
    0 ≤ I.build.objective σ :=
  (sum_map_nonneg I.errRows _ fun _ _ => abs_nonneg _).trans (minor_objective_ge_error I σ h hmiss hadd hph hdef)

theorem minor_zero_objective_rows (I : MinorInst) (σ : NVar → Rat) (h : I.build.Sat σ)
    (hmiss : 0 ≤ I.minorMiss) (hadd : 0 ≤ I.minorAdd) (hph : 0 ≤ I.minorPhase)
    (hdef : ∀ cs ∈ I.slots, ∀ m ∈ cs.1.defMuts, m ∈ I.mutations)
    (h0 : I.build.objective σ ≤ 0) :
    (∀ m ∈ I.mutations, evalTerms σ (I.varTerms m) = I.observed m) ∧
    (∀ pos ∈ I.positions, evalTerms σ (I.refTerms pos) = I.observed (refMut' pos)) := by
  have hz := sum_nonneg_eq_zero I.errRows (fun m => |σ (.E m)|) (fun m _ => abs_nonneg _)
    ((minor_objective_ge_error I σ h hmiss hadd hph hdef).trans h0)
  obtain ⟨zVar, zRef⟩ := forall_errRows.mp hz
  refine ⟨fun m hm => ?_, fun pos hp => ?_⟩
  · exact (sub_eq_zero.mp (((sat_iff.mp h).errVar m hm).symm.trans (abs_eq_zero.mp (zVar m hm)))).symm
  · exact (sub_eq_zero.mp (((sat_iff.mp h).errRef pos hp).symm.trans (abs_eq_zero.mp (zRef pos hp)))).symm

/-- **minor_zero_objective_exact** a feasible point of the refinement model that scores 0 carries
every considered variant on exactly the observed number of copies (kept definition variants and
additions together): counted with multiplicity, nothing is added and nothing is lost -/
theorem minor_zero_objective_exact (I : MinorInst) (σ : NVar → Rat) (h : I.build.Sat σ)
    (hmiss : 0 ≤ I.minorMiss) (hadd : 0 ≤ I.minorAdd) (hph : 0 ≤ I.minorPhase)
    (hdef : ∀ cs ∈ I.slots, ∀ m ∈ cs.1.defMuts, m ∈ I.mutations)
    (h0 : I.build.objective σ ≤ 0) :
    ∀ m ∈ I.mutations, evalTerms σ (I.varTerms m) = I.observed m :=
  (minor_zero_objective_rows I σ h hmiss hadd hph hdef h0).1

/-- **minor_optima_exact** if some feasible point scores 0 (for a simulated sample: the planted
point - the driver evaluates `MinorInst.plantedσ` in `MinorInst.build` on the real stage input),
every optimum carries every considered variant on exactly the observed number of copies -/
theorem minor_optima_exact (I : MinorInst) (σ τ : NVar → Rat) (h : I.build.Sat σ)
    (hmiss : 0 ≤ I.minorMiss) (hadd : 0 ≤ I.minorAdd) (hph : 0 ≤ I.minorPhase)
    (hdef : ∀ cs ∈ I.slots, ∀ m ∈ cs.1.defMuts, m ∈ I.mutations)
    (_hτ : I.build.Sat τ) (hτ0 : I.build.objective τ ≤ 0) (hopt : I.build.objective σ ≤ I.build.objective τ) :
    ∀ m ∈ I.mutations, evalTerms σ (I.varTerms m) = I.observed m :=
  minor_zero_objective_exact I σ h hmiss hadd hph hdef (le_trans hopt hτ0)

/-- one candidate: copy 0 plus the extra copies `1 .. n-1` -/
theorem cand_sum (k n : Nat) (F : Rat) (hk : k ≤ n) :
    (if 0 < k then F else 0) + (((List.range n).filter (· ≥ 1)).map fun i => if i < k then F else 0).sum =
      (k : Rat) * F := by
  have e : ∀ i, (if i < k then F else 0) = F * (if i < k then (1 : Rat) else 0) := fun i => by
    rw [mul_ite, mul_one, mul_zero]
  simp only [e]
  rw [sum_map_mul_left, ← mul_add, ← List.sum_cons, ← List.map_cons (f := fun i => if i < k then (1 : Rat) else 0),
    zero_cons_range_filter, indicator_range_sum, Nat.min_eq_left (hk.trans (Nat.le_max_right 1 n)), mul_comm]

/-- **slots_sum** -/
theorem slots_sum (I : MinorInst) (copies : String → String → Nat) (F : MinorCand → Rat)
    (hfit : ∀ c ∈ I.cands, copies c.major c.minor ≤ I.count c.major) :
    (I.slots.map fun cs => if cs.2.idx < copies cs.2.major cs.2.minor then F cs.1 else 0).sum = I.weight copies F := by
  -- candidate by candidate: `slots` lists the copies 0 first, then the extra copies
  rw [slots, weight, List.map_append, List.sum_append, List.map_map, List.map_flatMap, List.flatMap_def,
    List.sum_flatten, List.map_map, sum_add_sum]
  refine sum_map_congr _ _ _ fun c hc => ?_
  rw [Function.comp_apply, Function.comp_apply, List.map_map]
  exact cand_sum _ _ _ (hfit c hc)

section Point
variable (copies : String → String → Nat) (choose : Nat → Option Nat)

def selv (s : MSlot) : Rat := if s.idx < copies s.major s.minor then 1 else 0

@[simp] theorem zσ_A (s : MSlot) : zeroσ copies choose (.A s) = selv copies s := rfl
@[simp] theorem zσ_K (m : Mut) (s : MSlot) : zeroσ copies choose (.K m s) = selv copies s := rfl
@[simp] theorem zσ_MULK (m : Mut) (s : MSlot) : zeroσ copies choose (.MULK m s) = selv copies s := rfl
@[simp] theorem zσ_N (m : Mut) (s : MSlot) : zeroσ copies choose (.N m s) = 0 := rfl
@[simp] theorem zσ_MULN (m : Mut) (s : MSlot) : zeroσ copies choose (.MULN m s) = 0 := rfl
@[simp] theorem zσ_E (m : Mut) : zeroσ copies choose (.E m) = 0 := rfl
@[simp] theorem zσ_ABS (m : Mut) : zeroσ copies choose (.ABS m) = 0 := rfl
@[simp] theorem zσ_VNEWOR (m : Mut) : zeroσ copies choose (.VNEWOR m) = 0 := rfl
@[simp] theorem zσ_PH3 (a r i : Nat) : zeroσ copies choose (.PH3 a r i) = 0 := rfl
theorem zσ_PH (a r : Nat) : zeroσ copies choose (.PH a r) = if choose r = some a then 1 else 0 := rfl
theorem zσ_PH2 (a r i : Nat) : zeroσ copies choose (.PH2 a r i) = zeroσ copies choose (.PH a r) := rfl

theorem selv_bin (s : MSlot) : IsBin (selv copies s) := isBin_ite _

theorem zσ_bin (v : NVar) : IsBin (zeroσ copies choose v) := by
  cases v
  case A | K | MULK | PH | PH2 => exact isBin_ite _
  all_goals exact Or.inl rfl

end Point

/-- what it means for `copies` (copies per candidate minor allele) and `choose` (the slot every
read-phase pattern is attributed to) to be a zero-error explanation of the evidence of `I` -/
structure PlantedMinor (I : MinorInst) (copies : String → String → Nat) (choose : Nat → Option Nat) : Prop where
  fits : ∀ c ∈ I.cands, copies c.major c.minor ≤ I.count c.major
  fills : ∀ mc ∈ I.majorSol, I.weight copies (fun c => ind (c.major == mc.1)) = (mc.2 : Rat)
  total : I.weight copies (fun _ => 1) ≤ (((I.majorSol.map (·.2)).sum : Nat) : Rat)
  covered : ∀ c ∈ I.cands, 0 < copies c.major c.minor → ∀ m ∈ c.defMuts, I.hasCov c m.pos = true
  variants : ∀ m ∈ I.mutations, I.observed m = I.carriersOf copies m
  reference : ∀ pos ∈ I.positions,
    I.observed (refMut' pos) = I.weight copies fun c => ind (I.hasCov c pos && (presentAt c pos).isEmpty)
  single : ∀ c ∈ I.cands, 0 < copies c.major c.minor → ∀ pos ∈ I.positions, (keptAt c pos).length ≤ 1
  /-- rule 5 -/
  supported : ∀ m ∈ I.mutations,
    if I.cn.positionCn I.gene m.pos == 0 || I.cov.coverage m == 0 then I.carriersOf copies m = 0
    else 1 ≤ I.carriersOf copies m ∧ I.carriersOf copies m ≤ I.cov.coverage m
  /-- rule 6 -/
  room : ∀ pos ∈ I.positions, I.weight copies (fun c => ((I.addAt c pos).length : Rat)) ≤ I.rule6Rhs pos
  /-- every read-phase pattern that some slot can explain is attributed to a cell ... -/
  phaseChosen : ∀ ri, ri < I.phases.length → (I.phaseCells.filter (·.ri == ri)) ≠ [] →
    ∃ c ∈ I.phaseCells, c.ri = ri ∧ choose ri = some c.ai
  /-- ... of a planted copy that agrees with the pattern at every site -/
  phaseAgrees : ∀ c ∈ I.phaseCells, choose c.ri = some c.ai →
    c.slot.idx < copies c.slot.major c.slot.minor ∧
      (∀ v ∈ c.pos, zeroσ copies choose v = 1) ∧ (∀ v ∈ c.neg, zeroσ copies choose v = 0)

section Feasible
variable (I : MinorInst) (copies : String → String → Nat) (choose : Nat → Option Nat)

theorem sel_planted (cs : MinorCand × MSlot) (hcs : cs ∈ I.slots) (h : selv copies cs.2 ≠ 0) :
    cs.1 ∈ I.cands ∧ 0 < copies cs.1.major cs.1.minor := by
  obtain ⟨hc, h1, h2, -⟩ := mem_slots.mp hcs
  have hlt : cs.2.idx < copies cs.2.major cs.2.minor := Decidable.of_not_not fun hn => h (if_neg hn)
  exact ⟨hc, h1 ▸ h2 ▸ Nat.zero_lt_of_lt hlt⟩

theorem selv_rw (cs : MinorCand × MSlot) :
    selv copies cs.2 = if cs.2.idx < copies cs.2.major cs.2.minor then 1 else 0 := rfl

theorem sel_sum (hfit : ∀ c ∈ I.cands, copies c.major c.minor ≤ I.count c.major) (g : MinorCand × MSlot → Rat)
    (F : MinorCand → Rat) (hg : ∀ cs ∈ I.slots, g cs = selv copies cs.2 * F cs.1) :
    (I.slots.map g).sum = I.weight copies F := by
  rw [← slots_sum I copies F hfit]
  refine sum_map_congr _ _ _ fun cs hcs => ?_
  rw [hg cs hcs, selv]
  split_ifs
  · exact one_mul _
  · exact zero_mul _

theorem varTerms_planted (hfit : ∀ c ∈ I.cands, copies c.major c.minor ≤ I.count c.major) (m : Mut) :
    evalTerms (zeroσ copies choose) (I.varTerms m) = I.carriersOf copies m := by
  unfold MinorInst.varTerms
  rw [evalTerms_filterMap_sum]
  refine sel_sum I copies hfit _ _ fun cs _ => ?_
  by_cases h1 : m ∈ cs.1.defMuts
  · simp [h1, MinorInst.one, MinorInst.ind]
  · by_cases h2 : I.hasCov cs.1 m.pos = true <;> simp [h1, h2, MinorInst.one, MinorInst.ind]

theorem carrierTerms_planted (hfit : ∀ c ∈ I.cands, copies c.major c.minor ≤ I.count c.major) (m : Mut) :
    evalTerms (zeroσ copies choose) (I.carrierTerms m) = I.carriersOf copies m := by
  unfold MinorInst.carrierTerms
  rw [evalTerms_append, evalTerms_filterMap_sum, evalTerms_zero_of _ (I.slots.filterMap _), add_zero]
  · refine sel_sum I copies hfit _ _ fun cs _ => ?_
    by_cases h1 : m ∈ cs.1.defMuts <;> simp [h1, MinorInst.one, MinorInst.ind]
  · intro t ht
    obtain ⟨cs, _, h⟩ := List.mem_filterMap.mp ht
    split_ifs at h
    cases h
    rfl

theorem refTerms_planted (hfit : ∀ c ∈ I.cands, copies c.major c.minor ≤ I.count c.major) (pos : Int) :
    evalTerms (zeroσ copies choose) (I.refTerms pos) =
      I.weight copies fun c => ind (I.hasCov c pos && (presentAt c pos).isEmpty) := by
  unfold MinorInst.refTerms
  rw [evalTerms_flatMap_sum]
  refine sel_sum I copies hfit _ _ fun cs _ => ?_
  have hz : evalTerms (zeroσ copies choose) ((I.newAt cs.1 pos).map fun m => ((-1 : Rat), NVar.MULN m cs.2)) = 0 :=
    evalTerms_zero_of _ _ (List.forall_mem_map.mpr fun _ _ => rfl)
  by_cases h1 : I.hasCov cs.1 pos = true
  · cases hp : presentAt cs.1 pos with
    | nil => simp [h1, MinorInst.one, MinorInst.neg, MinorInst.ind, hz]
    | cons p ps =>
      simp only [h1, Bool.not_true, Bool.false_eq_true, if_false, List.isEmpty_cons, Bool.and_false,
        evalTerms_append, evalTerms_cons, evalTerms_nil, hz, MinorInst.one, MinorInst.neg, MinorInst.ind, zσ_A, zσ_MULK]
      ring
  · simp [h1, MinorInst.ind]

/-- **planted_minor_feasible** under the clauses `PlantedMinor` the closed-form planted point
satisfies every constraint `solve_minor_model` emits, and scores 0 -/
theorem planted_minor_feasible (hP : PlantedMinor I copies choose)
    (hnd : (I.phaseCells.map fun c => (c.ai, c.ri)).Nodup) :
    I.build.Sat (zeroσ copies choose) ∧ I.build.objective (zeroσ copies choose) = 0 := by
  have hfit := hP.fits
  have hb := zσ_bin copies choose
  have hs := selv_bin copies
  have hz : ∀ {α : Type} (l : List α) (f : α → NVar), (∀ x ∈ l, zeroσ copies choose (f x) = 0) →
      sumVars (zeroσ copies choose) (l.map f) = 0 := fun l f h =>
    sumVars_zero_of_all_zero _ _ (List.forall_mem_map.mpr h)
  -- a cell that is not the chosen one of its pattern is off; for the chosen one `phaseAgrees` speaks
  have hphase : ∀ c ∈ I.phaseCells, zeroσ copies choose (.PH c.ai c.ri) ≤ selv copies c.slot ∧
      (∀ v ∈ c.pos, zeroσ copies choose (.PH c.ai c.ri) = zeroσ copies choose (.PH c.ai c.ri) * zeroσ copies choose v) ∧
      ∀ v ∈ c.neg, 0 = zeroσ copies choose (.PH c.ai c.ri) * zeroσ copies choose v := fun c hc => by
    by_cases hch : choose c.ri = some c.ai
    · obtain ⟨hsel, hpos, hneg⟩ := hP.phaseAgrees c hc hch
      have h1 : zeroσ copies choose (.PH c.ai c.ri) = 1 := if_pos hch
      exact ⟨(h1.trans (if_pos hsel).symm).le, fun v hv => by rw [hpos v hv, mul_one],
        fun v hv => by rw [hneg v hv, mul_zero]⟩
    · have h0 : zeroσ copies choose (.PH c.ai c.ri) = 0 := if_neg hch
      exact ⟨h0.trans_le (hs _).nonneg, fun v _ => by rw [h0, zero_mul], fun v _ => by rw [h0, zero_mul]⟩
  refine ⟨sat_iff.mpr ?_, ?_⟩
  · exact {
      binA := fun _ _ => hb _
      binK := fun _ _ _ _ => hb _
      binMULK := fun _ _ _ _ => hb _
      binN := fun _ _ _ _ => hb _
      binVNEWOR := fun _ _ => hb _
      binPH := fun _ _ => hb _
      ord := fun cs _ _ => by
        show selv copies cs.2 ≤ selv copies _
        by_cases h1 : cs.2.idx < copies cs.2.major cs.2.minor
        · exact (if_pos h1).trans_le (if_pos (Nat.lt_of_le_of_lt (Nat.sub_le _ _) h1)).ge
        · exact (if_neg h1).trans_le (hs _).nonneg
      fill := fun mc hmc => by
        rw [← evalTerms_map_one, evalTerms_filter_map_sum, ← hP.fills mc hmc]
        refine sel_sum I copies hfit _ _ fun cs _ => ?_
        by_cases h : (cs.1.major == mc.1) = true <;> simp [h, MinorInst.one, MinorInst.ind]
      total := by
        rw [sumVars_map]
        exact le_of_eq_of_le (sel_sum I copies hfit _ _ fun cs _ => (mul_one _).symm) hP.total
      mulK := fun cs _ _ _ _ => (hs cs.2).mul_self.symm
      mulN := fun _ _ _ _ => (mul_zero _).symm
      one := fun _ _ _ _ _ _ => (hz _ _ fun _ _ => rfl).trans_le zero_le_one
      errVar := fun m hm => by rw [varTerms_planted I copies choose hfit, hP.variants m hm]; exact (sub_self _).symm
      errRef := fun pos hp => by
        rw [refTerms_planted I copies choose hfit, hP.reference pos hp]; exact (sub_self _).symm
      keepLe := fun _ _ _ _ => le_refl _
      addLe := fun cs _ _ _ => (hs cs.2).nonneg
      coreKept := fun _ _ _ _ _ => le_refl _
      uncovered := fun cs hcs m hm hcov => by
        by_cases h0 : selv copies cs.2 = 0
        · exact le_of_eq h0
        · obtain ⟨hc1, hc2⟩ := sel_planted I copies cs hcs h0
          rw [hP.covered cs.1 hc1 hc2 m hm] at hcov
          cases hcov
      perSite := fun pos hpos cs hcs _ => by
        -- the added products are off; the kept ones are all on or all off with the copy
        rw [hz (I.addAt cs.1 pos) _ fun _ _ => rfl, add_zero]
        rcases hs cs.2 with h0 | h1
        · exact (hz (keptAt cs.1 pos) (fun m => .MULK m cs.2) fun _ _ => h0).trans_le zero_le_one
        · obtain ⟨hc1, hc2⟩ := sel_planted I copies cs hcs (by rw [h1]; exact one_ne_zero)
          rw [sumVars_eq_length (zeroσ copies choose) ((keptAt cs.1 pos).map fun m => .MULK m cs.2)
            (List.forall_mem_map.mpr fun _ _ => h1), List.length_map]
          exact_mod_cast hP.single cs.1 hc1 hc2 pos hpos
      unsupported := fun m hm hz =>
        (carrierTerms_planted I copies choose hfit m).trans_le (Eq.mp (if_pos hz) (hP.supported m hm)).le
      supported := fun m hm hz =>
        (carrierTerms_planted I copies choose hfit m).symm ▸ Eq.mp (if_neg (ne_true_of_eq_false hz)) (hP.supported m hm)
      room := fun _ pos hpos => by
        refine le_of_eq_of_le ?_ (hP.room pos hpos)
        unfold MinorInst.rule6Per
        rw [List.flatMap_map, evalTerms_flatMap_sum]
        refine sel_sum I copies hfit _ _ fun cs _ => ?_
        -- `len * A - (kept products) - (added products)`: the kept ones cancel, the added ones are off
        rw [evalTerms_cons, List.map_append, List.map_map, List.map_map, evalTerms_append]
        change _ * selv copies cs.2 + (evalTerms _ ((keptAt cs.1 pos).map fun m => ((-1 : Rat), NVar.MULK m cs.2)) +
          evalTerms _ ((I.addAt cs.1 pos).map fun m => ((-1 : Rat), NVar.MULN m cs.2))) = _
        rw [evalTerms_map_const_of_eq _ _ (-1) (fun m => NVar.MULK m cs.2) (selv copies cs.2) (fun _ _ => rfl),
          evalTerms_map_const_of_eq _ _ (-1) (fun m => NVar.MULN m cs.2) 0 (fun _ _ => rfl),
          List.length_append, List.length_map, List.length_map]
        push_cast
        ring
      phaseLe := fun c hc => (hphase c hc).1
      mulPos := fun c hc vi hvi => (hphase c hc).2.1 vi.1 (List.fst_mem_of_mem_zipIdx hvi)
      mulNeg := fun c hc vi hvi => (hphase c hc).2.2 vi.1 (List.fst_mem_of_mem_zipIdx hvi)
      phaseOne := fun ri hri hne => by
        -- exactly one cell of the pattern is switched on: the chosen one, and cells have distinct keys
        obtain ⟨c0, hc0, rfl, hch0⟩ := hP.phaseChosen ri hri hne
        have hc0l : c0 ∈ I.phaseCells.filter (·.ri == c0.ri) := List.mem_filter.mpr ⟨hc0, beq_self_eq_true _⟩
        rw [sumVars_map, ← indicator_sum_nodup (fun c : PhaseCell => (c.ai, c.ri))
          (hnd.sublist (List.filter_sublist.map _)) hc0l]
        refine sum_map_congr _ _ _ fun c hcl => ?_
        have hri : c.ri = c0.ri := beq_iff_eq.mp (List.mem_filter.mp hcl).2
        -- `choose c0.ri = some c.ai` iff `c` has the key of `c0`
        rw [hri]
        refine (zσ_PH copies choose c.ai c0.ri).trans (hch0 ▸ if_congr ?_ rfl rfl)
        exact ⟨fun e => by rw [Option.some.inj e], fun e => by rw [(Prod.mk.inj e).1]⟩
      abs := fun _ _ => le_of_eq abs_zero
      novel := fun m _ => ⟨fun h => absurd h zero_ne_one, fun ⟨v, hv, h1⟩ => by
        obtain ⟨cs, _, _, rfl⟩ := mem_novelCoreSel hv
        exact absurd h1 zero_ne_one⟩ }
  · rw [minor_score_closed_form, sum_map_zero I.errRows, sum_map_zero I.slots, sum_map_zero I.newSelectors.zipIdx,
      sumVars_zero_of_all_zero, sum_map_zero I.phaseCells]
    · simp only [mul_zero, add_zero]
    · intro c _
      rw [sum_map_zero c.pos.zipIdx, sum_map_zero c.neg.zipIdx, add_zero, mul_zero]
      · exact fun _ _ => rfl
      · exact fun _ _ => sub_self _
    · exact List.forall_mem_map.mpr fun _ _ => rfl
    · exact fun _ _ => mul_zero _
    · exact fun cs _ => sum_map_zero _ _ fun _ _ => sub_self _
    · exact fun _ _ => rfl

end Feasible

theorem zipIdx_pairwise_snd {A : Type} (l : List A) : (l.zipIdx).Pairwise fun a b => a.2 ≠ b.2 := by
  have h : (l.zipIdx.map (·.2)).Nodup := by
    rw [List.zipIdx_map_snd]; exact List.nodup_range'
  exact List.pairwise_map.mp h

theorem phaseCells_keys_nodup (I : MinorInst) : (I.phaseCells.map fun c => (c.ai, c.ri)).Nodup := by
  -- a cell made from pattern `rc` and slot `ca` carries their two indices, and the indices of `zipIdx` do not repeat
  have hkey : ∀ (rc : (List (Int × String) × Nat) × Nat) (ca : (MinorCand × MSlot) × Nat) (x : PhaseCell),
      (let sel := I.phaseSel ca.1 rc.1.1
       if sel.1.length + sel.2.length > 1 then some (⟨ca.2, rc.2, ca.1.2, sel.1, sel.2, rc.1.2⟩ : PhaseCell)
       else none) = some x →
      x.ai = ca.2 ∧ x.ri = rc.2 := by
    intro rc ca x h
    simp only at h
    split_ifs at h
    cases h
    exact ⟨rfl, rfl⟩
  rw [List.Nodup, List.pairwise_map, phaseCells, List.pairwise_flatMap]
  refine ⟨fun rc _ => List.pairwise_filterMap.mpr ((zipIdx_pairwise_snd I.slots).imp fun {ca ca'} hne x hx y hy e => ?_),
    (zipIdx_pairwise_snd I.phases).imp fun {rc rc'} hne x hx y hy e => ?_⟩
  · exact hne (by rw [← (hkey rc ca x hx).1, ← (hkey rc ca' y hy).1, (Prod.mk.inj e).1])
  · obtain ⟨ca, _, hx⟩ := List.mem_filterMap.mp hx
    obtain ⟨ca', _, hy⟩ := List.mem_filterMap.mp hy
    exact hne (by rw [← (hkey rc ca x hx).2, ← (hkey rc' ca' y hy).2, (Prod.mk.inj e).2])

/-- **planted_minor_zero** `planted_minor_feasible` with its side condition discharged: the clauses alone suffice -/
theorem planted_minor_zero (I : MinorInst) (copies : String → String → Nat) (choose : Nat → Option Nat)
    (hP : PlantedMinor I copies choose) :
    I.build.Sat (zeroσ copies choose) ∧ I.build.objective (zeroσ copies choose) = 0 :=
  planted_minor_feasible I copies choose hP (phaseCells_keys_nodup I)

/-- **planted_minor_optima_exact** with zero-error evidence (clauses `PlantedMinor`) every optimum
of the refinement model carries every considered variant on exactly the planted number of
copies - kept definition variants and additions together: nothing added, nothing lost -/
theorem planted_minor_optima_exact (I : MinorInst) (copies : String → String → Nat) (choose : Nat → Option Nat)
    (hP : PlantedMinor I copies choose) (τ : NVar → Rat) (hτ : I.build.Sat τ)
    (hmiss : 0 ≤ I.minorMiss) (hadd : 0 ≤ I.minorAdd) (hph : 0 ≤ I.minorPhase)
    (hdef : ∀ cs ∈ I.slots, ∀ m ∈ cs.1.defMuts, m ∈ I.mutations)
    (hopt : ∀ ρ, I.build.Sat ρ → I.build.objective τ ≤ I.build.objective ρ) :
    ∀ m ∈ I.mutations, evalTerms τ (I.varTerms m) = I.carriersOf copies m := by
  obtain ⟨hs, h0⟩ := planted_minor_zero I copies choose hP
  intro m hm
  rw [← hP.variants m hm]
  exact minor_optima_exact I τ (zeroσ copies choose) hτ hmiss hadd hph hdef hs (le_of_eq h0) (hopt _ hs) m hm

/-- **plantedMinorB_iff** the boolean the driver evaluates on the real inputs of
`solve_minor_model` is exactly the hypothesis `PlantedMinor` of the theorems above -/
theorem plantedMinorB_iff (I : MinorInst) (copies : String → String → Nat) (choose : Nat → Option Nat) :
    I.plantedMinorB copies choose = true ↔ PlantedMinor I copies choose := by
  simp only [plantedMinorB, plantedMinorClauses, List.all_cons, List.all_nil, Bool.and_true, Bool.and_eq_true,
    List.all_eq_true, List.any_eq_true, Bool.or_eq_true, decide_eq_true_eq, Bool.not_eq_true', decide_eq_false_iff_not,
    List.isEmpty_iff, Bool.ite_eq_true_distrib, beq_iff_eq, List.mem_range]
  -- the boolean clauses say `a ∨ b` where the structure says `¬a → b`
  constructor
  · rintro ⟨h1, h2, h3, h4, h5, h6, h7, h8, h9, h10, h11⟩
    exact ⟨h1, h2, h3, fun c hc hk => (h4 c hc).resolve_left hk.ne', h5, h6,
      fun c hc hk => (h7 c hc).resolve_left hk.ne',
      fun m hm => by simpa only [Bool.or_eq_true, beq_iff_eq] using h8 m hm, h9,
      fun ri hri hne => (h10 ri hri).resolve_left hne,
      fun c hc hch => and_assoc.mp ((h11 c hc).resolve_left (not_not.mpr hch))⟩
  · intro h
    exact ⟨h.fits, h.fills, h.total, fun c hc => (Nat.eq_zero_or_pos _).imp_right (h.covered c hc), h.variants,
      h.reference, fun c hc => (Nat.eq_zero_or_pos _).imp_right (h.single c hc),
      fun m hm => by simpa only [Bool.or_eq_true, beq_iff_eq] using h.supported m hm, h.room,
      fun ri hri => or_iff_not_imp_left.mpr (h.phaseChosen ri hri),
      fun c hc => or_iff_not_imp_left.mpr fun hch => and_assoc.mpr (h.phaseAgrees c hc (not_not.mp hch))⟩

/-! ### non-vacuity: the example instance of C04 (one copy of `1.002`, one of `2.001`), without
and with a read-phase pattern that the planted copy of `2.001` explains -/

def exCopies : String → String → Nat := fun ma mi =>
  if ma == "1" && mi == "1.002" then 1 else if ma == "2" && mi == "2.001" then 1 else 0

example : exMInst.plantedMinorB exCopies (fun _ => none) = true := by decide +kernel

def exMInstPhased : MinorInst := { exMInst with phases := [([(10, "A>G"), (20, "_")], 3)] }

example : exMInstPhased.phaseCells.length = 3 := by decide +kernel

theorem exMInstPhased_planted :
    exMInstPhased.plantedMinorB exCopies (fun ri => if ri = 0 then some 2 else none) = true := by decide +kernel

example : exMInstPhased.plantedMinorB exCopies (fun ri => if ri = 0 then some 2 else none) = true := exMInstPhased_planted

example : exMInstPhased.build.objective (zeroσ exCopies (fun ri => if ri = 0 then some 2 else none)) = 0 :=
  (planted_minor_zero _ _ _ ((plantedMinorB_iff _ _ _).mp exMInstPhased_planted)).2

/-- the same through the closed form of Props/C04Score -/
example : exMInstPhased.build.objective (zeroσ exCopies (fun ri => if ri = 0 then some 2 else none)) = 0 := by
  rw [minor_score_closed_form]; decide +kernel

end Aldy
