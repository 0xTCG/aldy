import Aldy.Model.Dump
import Aldy.Lemmas.Keyed
import Aldy.Lemmas.MutOrder
import Mathlib.Data.List.Induction

/-!
# C17 — a debug dump replays to the same result
-/

namespace Aldy

def countObs (o : Obs) (l : List Obs) : Nat := l.count o

theorem compressObs_concat (l : List Obs) (o : Obs) : compressObs (l ++ [o]) = upsert (compressObs l) o (· + 1) 1 :=
  List.foldl_concat ..

theorem count_expandObs (c : List (Obs × Nat)) (x : Obs) :
    (expandObs c).count x = (c.map fun e => if e.1 == x then e.2 else 0).sum := by
  unfold expandObs
  rw [List.count_flatMap]
  exact congrArg List.sum (List.map_congr_left fun e _ => List.count_replicate ..)

theorem expand_count_step (acc : List (Obs × Nat)) (o x : Obs) (hnd : (acc.map (·.1)).Nodup) :
    (expandObs (upsert acc o (· + 1) 1)).count x = (expandObs acc).count x + (if o == x then 1 else 0) := by
  rw [count_expandObs, count_expandObs]
  refine sum_map_upsert _ acc o _ _ _ hnd (fun v => ?_) ?_
  · dsimp only; split <;> rfl
  · rfl

theorem compress_keys_nodup (l : List Obs) : ((compressObs l).map (·.1)).Nodup := by
  induction l using List.reverseRecOn with
  | nil => exact List.nodup_nil
  | append_singleton os o ih => rw [compressObs_concat]; exact nodup_keys_upsert _ o _ _ ih

/-- **dump_roundtrip** writing the observations of a site into the dump and loading them back
gives the same multiset of observations. -/
theorem dump_roundtrip (l : List Obs) : (expandObs (compressObs l)).Perm l := by
  rw [List.perm_iff_count]
  intro x
  induction l using List.reverseRecOn with
  | nil => rfl
  | append_singleton os o ih =>
    rw [compressObs_concat, expand_count_step _ o x (compress_keys_nodup os), ih, List.count_append, List.count_singleton]

/-- **stages_respect_equiv (counts)** what the stages read from a site - the number of
observations and the number of qualifying observations - is the same for the replayed list. -/
theorem dump_counts_equal (l : List Obs) (p : Obs → Bool) :
    (expandObs (compressObs l)).length = l.length ∧
    ((expandObs (compressObs l)).filter p).length = (l.filter p).length := by
  have h := dump_roundtrip l
  exact ⟨h.length_eq, (h.filter p).length_eq⟩

/-- **phase_modes_equal** dropping fragments that cover a single site does not change the
read-phase patterns the minor stage uses (it only uses patterns over at least two sites). -/
theorem phase_modes_equal (mutPos : List Int) (frags : List (List (Int × String))) :
    phaseModes mutPos (dumpPhases frags) = phaseModes mutPos frags := by
  unfold phaseModes dumpPhases
  rw [List.foldl_filter]
  refine congrArg (fun f => List.foldl f [] frags) (funext fun acc => funext fun v => ?_)
  by_cases hv : v.length > 1
  · exact if_pos (decide_eq_true hv)
  · -- a fragment with at most one site has a restriction with at most one site: the fold skips it
    have := List.length_filter_le (fun kv : Int × String => mutPos.contains kv.1) v
    rw [if_neg (mt of_decide_eq_true hv)]
    dsimp only
    rw [if_neg (by rw [(sortPairs_perm _).length_eq]; omega)]

example : compressObs [(60, 40), (60, 25), (60, 40)] = [((60, 40), 2), ((60, 25), 1)] := by decide +kernel
example : expandObs (compressObs [(60, 40), (60, 25), (60, 40)]) = [(60, 40), (60, 40), (60, 25)] := by decide +kernel

end Aldy
