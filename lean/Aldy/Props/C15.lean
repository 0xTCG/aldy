import Aldy.Model.Filters
import Mathlib.Algebra.Order.Ring.Rat

/-!
# C15 — calls are backed by high-quality reads; low-quality reads are ignored
-/

namespace Aldy

def lowObs (p : ProfileV) (o : Obs) : Prop := o.2 < p.minQuality ∨ o.1 < p.minMapq

/-- **qfilter_ignores_low** the quality filter of a variant depends only on its qualifying
observations: adding any observations that fail the base- or mapping-quality threshold (at
the end of the variant's list) leaves it unchanged. -/
theorem qfilter_ignores_low (p : ProfileV) (c c' : Cov) (m : Mut) (low : List Obs) (h : ∀ o ∈ low, lowObs p o)
    (hq : c'.quals m = c.quals m ++ low) : c'.qualityFilter p m = c.qualityFilter p m := by
  unfold Cov.qualityFilter
  rw [hq, List.filter_append]
  refine (congrArg (_ ++ ·) (List.filter_eq_nil_iff.mpr fun o ho => ?_)).trans (List.append_nil _)
  -- `lowObs` is the negation of the filter's test
  rw [Bool.and_eq_true, decide_eq_true_eq, decide_eq_true_eq]
  exact fun hk => (h o ho).elim (not_lt.mpr hk.1) (not_lt.mpr hk.2)

theorem qfilter_sound (p : ProfileV) (c : Cov) (m : Mut) (o : Obs) (ho : o ∈ c.qualityFilter p m) :
    o ∈ c.quals m ∧ p.minQuality ≤ o.2 ∧ p.minMapq ≤ o.1 := by
  unfold Cov.qualityFilter at ho
  simp only [List.mem_filter, Bool.and_eq_true, decide_eq_true_eq, ge_iff_le] at ho
  exact ⟨ho.1, ho.2.1, ho.2.2⟩

theorem qfilter_idem (p : ProfileV) (l : List Obs) :
    let f := fun (o : Obs) => decide (o.2 ≥ p.minQuality) && decide (o.1 ≥ p.minMapq)
    (l.filter f).filter f = l.filter f := by
  simp [List.filter_filter]

/-- **called_core_supported** an allele is a candidate for calling only if its structure is part
of the gene structure and every one of its core variants has positive support in the evidence
that passed the quality and threshold filters. -/
theorem called_core_supported (g : GeneView) (p : ProfileV) (s : CNSol) (c : Cov) (a : MajorA)
    (ha : a ∈ (filterAlleles g p s c).1) :
    (∃ cc ∈ s.solution, cc.1 = a.cnConfig) ∧ ∀ m ∈ a.func, 0 < (majorFilteredCov g p s c).coverage m := by
  simp only [filterAlleles, List.mem_filter, Bool.and_eq_true, List.any_eq_true, beq_iff_eq, List.all_eq_true,
    decide_eq_true_eq] at ha
  obtain ⟨_, ⟨cc, hcc, he⟩, hall⟩ := ha
  exact ⟨⟨cc, hcc, he⟩, fun m hm => hall m hm⟩

/-- **unsupported_core_never_called** contrapositive: an allele one of whose core variants has
no qualifying support is not a candidate. -/
theorem unsupported_core_never_called (g : GeneView) (p : ProfileV) (s : CNSol) (c : Cov) (a : MajorA)
    (m : Mut) (hm : m ∈ a.func) (h0 : (majorFilteredCov g p s c).coverage m ≤ 0) :
    a ∉ (filterAlleles g p s c).1 :=
  fun ha => not_lt.mpr h0 ((called_core_supported g p s c a ha).2 m hm)

theorem le_ratMax (a b : Rat) : a ≤ Cov.ratMax a b ∧ b ≤ Cov.ratMax a b := by
  unfold Cov.ratMax
  split
  · next h => exact ⟨h.le, le_refl b⟩
  · next h => exact ⟨le_refl a, not_lt.mp h⟩

/-- the threshold filter answers `true` only with at least `min_coverage` observations and at
least the configured fraction of the locus depth -/
theorem basicFilter_sound (c : Cov) (p : ProfileV) (m : Mut) (cn thres : Option Rat)
    (h : c.basicFilter p m cn thres = true) :
    p.minCoverage ≤ c.coverage m :=
  le_trans (le_ratMax _ _).1 (of_decide_eq_true h)

theorem basicFilter_fraction (c : Cov) (p : ProfileV) (m : Mut) (cn : Rat) (hcn : cn ≠ 0)
    (h : c.basicFilter p m (some cn) none = true) :
    c.total m * (p.threshold / cn) ≤ c.coverage m := by
  have h' := le_trans (le_ratMax _ _).2 (of_decide_eq_true h)
  dsimp only at h'
  rwa [if_neg (ne_true_of_eq_false (beq_false_of_ne hcn))] at h'

theorem majorFilter_sound (g : GeneView) (p : ProfileV) (s : CNSol) (c : Cov) (m : Mut)
    (h : majorFilterFn g p s c m = .keep true) : p.minCoverage ≤ c.coverage m := by
  unfold majorFilterFn at h
  simp only at h
  split at h
  · simp only [Cov.FilterRes.keep.injEq, Bool.and_eq_true] at h
    exact basicFilter_sound c p m _ _ h.1
  · simp only [Cov.FilterRes.keep.injEq] at h
    exact basicFilter_sound c p m _ _ h

example : (Cov.mk [(5, [("A>G", [(60, 60), (5, 60), (60, 3)])])] []).qualityFilter
    { threshold := 1/2, minCoverage := 2, minQuality := 10, minMapq := 10, cnMax := 20, gap := 0, cnPcePenalty := 2, cnDiff := 10,
      cnFit := 1, cnParsimony := 1/2, cnFusionLeft := 1/2, cnFusionRight := 1/4, majorNovel := 21, minorMiss := 3/2, minorAdd := 1,
      minorPhase := 2/5 } ⟨5, "A>G"⟩ = [(60, 60)] := by decide +kernel

end Aldy
