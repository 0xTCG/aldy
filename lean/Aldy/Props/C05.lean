import Aldy.Lemmas.Enumerate
import Aldy.Lemmas.Gadgets
import Aldy.Generated.Constants
import Aldy.Model.Shape

/-!
# C05 — the ILP layer returns true optima and exact linearisations

`M` is the list of feasible points of *any* finite model, and every theorem about `Run` holds for
**every** execution it allows, i.e. whatever a correct solver picks among tied optima.  The stop
test is the documented one only for a positive precision (`heps`; `stop_eps_pos` for the literal of
the source).  Progress (`run_T1_nonempty`, `stage_reports_optimum`) needs `0 ≤ gap` and a
non-negative optimum as well: otherwise the first optimum fails the gap test against itself.
The gadget lemmas of `Lemmas/Gadgets.lean` are restated under the names of the property list.
-/

namespace Aldy
variable {V : Type}
section Loop
variable [DecidableEq V]
variable {M : List (Pt V)} {gap eps : Rat} {limit : Option Nat}

/-- **T1** the first yielded solution is a global optimum. -/
theorem run_T1 {p ps c} (h : Run M gap eps limit none [] 0 (p :: ps) c) :
    p ∈ M ∧ ∀ q ∈ M, p.obj ≤ q.obj := by
  cases h with
  | limitStop ha _ _ | more ha _ _ _ => exact ⟨ha.1, fun q hq => ha.2.2 q hq (okCuts_nil q)⟩

/-- **T1'** progress: a feasible model with non-negative optimum yields something unless
the solver reports a non-optimal status. -/
theorem run_T1_nonempty (heps : 0 < eps) (hgap : 0 ≤ gap) {ps}
    (h : Run M gap eps limit none [] 0 ps true)
    (hne : ∃ p, IsArgmin M [] p ∧ 0 ≤ p.obj) : ps ≠ [] := by
  obtain ⟨p, hp, hp0⟩ := hne
  cases h with
  | infeasible hinf => exact absurd ((hinf p hp.1).symm.trans hp.2.1) Bool.false_ne_true
  | @gapStop _ _ _ p' ha hr =>
    -- `p'` is rejected against its own objective: `(1 + gap)·obj + eps ≤ obj` with `0 ≤ obj`
    rw [Option.getD_none, rejected_iff heps] at hr
    have := mul_nonneg hgap (hp0.trans (hp.2.2 p' ha.1 (okCuts_nil p')))
    linarith
  | more _ _ _ _ => exact List.cons_ne_nil _ _

/-- **T2** every yielded solution is feasible and within the gap of the optimum
(`best` = objective of the first yielded solution = global optimum by T1). -/
theorem run_T2 (heps : 0 < eps) {p ps c} (h : Run M gap eps limit none [] 0 (p :: ps) c) :
    ∀ q ∈ p :: ps, q ∈ M ∧ q.obj < (1 + gap) * p.obj + eps := by
  obtain ⟨hmem, -, hgap⟩ := h.sound
  exact fun q hq => ⟨(hmem q hq).1, (rejected_false_iff heps).mp (hgap p rfl q hq)⟩

/-- **T3** no binary assignment is yielded twice — indeed no yielded active set contains
an earlier one. -/
theorem run_T3 {ps c} (h : Run M gap eps limit none [] 0 ps c) :
    ps.Pairwise fun p q => ¬ (∀ x ∈ p.act, x ∈ q.act) :=
  h.sound.2.1.imp fun {p q} hpq (hsub : ∀ x ∈ p.act, x ∈ q.act) =>
    Bool.false_ne_true (hpq.1.symm.trans ((subsetB_iff _ _).mpr hsub))

/-- **T4** solutions come in non-decreasing objective order. -/
theorem run_T4 {ps c} (h : Run M gap eps limit none [] 0 ps c) :
    ps.Pairwise fun p q => p.obj ≤ q.obj := h.sound.2.1.imp And.right

/-- **T5** completeness modulo supersets: if the loop ran to the end, every feasible point
within the gap of the optimum `m` has the active set of some yielded solution as a subset,
and that solution is no worse. -/
theorem run_T5 (heps : 0 < eps) {ps} (h : Run M gap eps limit none [] 0 ps true)
    {m : Rat} (hm : ∀ p, IsArgmin M [] p → p.obj = m) :
    ∀ q ∈ M, q.obj < (1 + gap) * m + eps →
      ∃ p ∈ ps, (∀ x ∈ p.act, x ∈ q.act) ∧ p.obj ≤ q.obj := by
  intro q hq hlt
  obtain ⟨p, hp, h1, h2⟩ := h.complete_aux heps rfl m hm q hq (okCuts_nil q)
    ((rejected_false_iff heps).mpr hlt)
  exact ⟨p, hp, (subsetB_iff _ _).mp h1, h2⟩

/-- **T6** if no feasible active set strictly contains another (antichain), then every
feasible assignment within the gap is yielded — with the least objective among the points
that share its active set — and by T3 exactly once. -/
theorem run_T6 (heps : 0 < eps) {ps} (h : Run M gap eps limit none [] 0 ps true)
    {m : Rat} (hm : ∀ p, IsArgmin M [] p → p.obj = m)
    (hanti : ∀ p ∈ M, ∀ q ∈ M, (∀ x ∈ p.act, x ∈ q.act) → ∀ x ∈ q.act, x ∈ p.act) :
    ∀ q ∈ M, q.obj < (1 + gap) * m + eps →
      ∃ p ∈ ps, (∀ x, x ∈ p.act ↔ x ∈ q.act) ∧ p.obj ≤ q.obj := by
  intro q hq hlt
  obtain ⟨p, hp, hsub, hle⟩ := run_T5 heps h hm q hq hlt
  exact ⟨p, hp, fun x => ⟨hsub x, hanti p (h.sound.1 p hp).1 q hq hsub x⟩, hle⟩

/-- **stage_reports_optimum** a run that ended normally, over a model whose objective is nowhere
negative, reports something whenever the model is feasible - and by `run_T1` the first reported
point is a global optimum.  `cn_objective_nonneg` (Props/C03), `major_objective_nonneg` (Props/C01)
and `minor_objective_nonneg` (Props/C01Minor) discharge `hnonneg` for the three stage models. -/
theorem stage_reports_optimum (heps : 0 < eps) (hgap : 0 ≤ gap)
    (hnonneg : ∀ p ∈ M, 0 ≤ p.obj) {ps} (h : Run M gap eps limit none [] 0 ps true)
    (hfeas : ∃ p, IsArgmin M [] p) : ps ≠ [] := by
  obtain ⟨p, hp⟩ := hfeas
  exact run_T1_nonempty heps hgap h ⟨p, hp, hnonneg p hp.1⟩

/-- The literal stop test of the code equals the documented one. -/
theorem stop_test_meaning (heps : 0 < eps) (best obj : Rat) :
    rejected gap eps best obj = true ↔ (1 + gap) * best + eps ≤ obj := rejected_iff heps

end Loop

/-- The precision used by the stop test is positive (hypothesis `heps` of T1'-T6). -/
theorem stop_eps_pos : 0 < Const.STOP_EPS := by
  unfold Const.STOP_EPS; norm_num

/-- "Within the gap" is meant up to the documented solver precision `1e-5`, not more. -/
theorem stop_eps_small : Const.STOP_EPS ≤ 1 / 100000 := by
  unfold Const.STOP_EPS; norm_num

/-- Solutions are verified with a positive tolerance (a zero tolerance rejects optima
whose floating-point residual is 1e-17). -/
theorem verify_tol_pos : 0 < Const.VERIFY_TOL := by
  unfold Const.VERIFY_TOL; norm_num

theorem prod_exact (σ : V → Rat) (res : V) (ts : List V)
    (hres : IsBin (σ res)) (hts : ∀ t ∈ ts, IsBin (σ t))
    (h : ∀ c ∈ prodCons res ts, c.holds σ) :
    (σ res = 1) ↔ (∀ t ∈ ts, σ t = 1) := (prod_gadget σ res ts hres hts).mp h

theorem prod_complete (σ : V → Rat) (res : V) (ts : List V)
    (hres : IsBin (σ res)) (hts : ∀ t ∈ ts, IsBin (σ t))
    (h : (σ res = 1) ↔ (∀ t ∈ ts, σ t = 1)) :
    ∀ c ∈ prodCons res ts, c.holds σ := (prod_gadget σ res ts hres hts).mpr h

theorem abs_exact (σ : V → Rat) (a v : V) :
    (∀ c ∈ absCons a v, c.holds σ) ↔ |σ v| ≤ σ a := abs_gadget σ a v

/-- Triples (weight, value, helper).  The hypothesis of the second part is what optimality gives. -/
theorem abssum_exact (ts : List (Rat × Rat × Rat))
    (hw : ∀ t ∈ ts, 0 < t.1) (hf : ∀ t ∈ ts, |t.2.1| ≤ t.2.2) :
    (ts.map fun t => t.1 * |t.2.1|).sum ≤ (ts.map fun t => t.1 * t.2.2).sum ∧
    ((ts.map fun t => t.1 * t.2.2).sum ≤ (ts.map fun t => t.1 * |t.2.1|).sum →
      ∀ t ∈ ts, t.2.2 = |t.2.1|) := abssum_opt ts hw hf

theorem cut_exact (σ : V → Rat) (vv : List V) (h : ∀ v ∈ vv, IsBin (σ v)) :
    (cutCon vv).holds σ ↔ ¬ (∀ v ∈ vv, σ v = 1) := cut_iff σ vv h

/-! ### Non-vacuity: a concrete model with a run that meets every hypothesis -/
def exM : List (Pt Nat) := [⟨[], 1⟩, ⟨[0], 0⟩, ⟨[1], 0⟩, ⟨[0, 1], 3⟩]

example : Run exM 0 (1/100000) none none [] 0 [⟨[0], 0⟩, ⟨[1], 0⟩] true := by
  refine Run.more (p := ⟨[0], 0⟩) ⟨by decide +kernel, by decide +kernel, by decide +kernel⟩
    (by decide +kernel) (by decide +kernel) ?_
  refine Run.more (p := ⟨[1], 0⟩) ⟨by decide +kernel, by decide +kernel, by decide +kernel⟩
    (by decide +kernel) (by decide +kernel) ?_
  exact Run.gapStop (p := ⟨[], 1⟩) ⟨by decide +kernel, by decide +kernel, by decide +kernel⟩
    (by decide +kernel)

example : validRun exM 0 (1/100000) (1/1000000) none [⟨[0], 0⟩, ⟨[1], 0⟩] = none := by decide +kernel
example : (validRun exM 0 (1/100000) (1/1000000) none [⟨[0], 0⟩]).isSome = true := by decide +kernel

theorem sublistsOf_sublist (xs l : List V) (h : l ∈ sublistsOf xs) : l.Sublist xs := by
  induction xs generalizing l with
  | nil =>
    simp only [sublistsOf, List.mem_singleton] at h
    subst h; exact List.Sublist.refl _
  | cons x xs ih =>
    simp only [sublistsOf, List.mem_append, List.mem_map] at h
    rcases h with h | ⟨l', hl', rfl⟩
    · exact (ih l h).cons x
    · exact (ih l' hl').cons_cons x

section ShapePoints
variable [DecidableEq V]

/-- **points_act_sublist** the active set of every point of a model with general integers
(`addVar(vtype="I")`) consists of binaries only, so that the exclusion cut of the enumeration
never constrains an integer: such a variable is not "a binary that is 1" whatever its value. -/
theorem points_act_sublist (s : Shape V) (p : Pt V) (h : p ∈ s.points) : p.act.Sublist s.bins := by
  unfold Shape.points at h
  obtain ⟨act, hact, hp⟩ := List.mem_flatMap.mp h
  obtain ⟨iv, _, hiv⟩ := List.mem_filterMap.mp hp
  have hsub := sublistsOf_sublist s.bins act hact
  simp only at hiv
  split at hiv
  · cases hiv; exact hsub
  · cases hiv

end ShapePoints

end Aldy
