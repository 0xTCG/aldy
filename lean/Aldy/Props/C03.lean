import Aldy.Lemmas.CN
import Mathlib.Data.List.Induction

/-!
# C03 — gene-structure (copy number) calls are well-formed and optimal

Theorems about `CNInst.build` (model of `solve_cn_model`'s construction), `foldCN` (the
read-out) and `cnDecision` (decision table of `estimate_cn`) for every instance.
-/

namespace Aldy
open CNInst

def countOnesC (σ : CVar → Rat) (vs : List CVar) : Nat := (vs.filter fun v => decide (σ v = 1)).length

/-- **cn_two_complete** exactly two complete haplotype slots (index 0 or −1; the whole-gene
deletion configuration counts as one) are set. -/
theorem cn_two_complete (I : CNInst) (σ : CVar → Rat) (h : I.build.Sat σ) :
    countOnesC σ ((I.slots.filter fun s => s.idx ≤ 0).map sv) = 2 := by
  have hF := sat_iff.mp h
  have h2 := hF.diplo
  rw [sumVars_eq_count σ _ (List.forall_mem_map.mpr fun s hs => hF.binS s (List.mem_filter.mp hs).1)] at h2
  exact_mod_cast h2

/-- **cn_deletion_exclusive** if the second deletion slot is set (double deletion) then no
slot of any other name — configuration, extra copy or pseudogene copy — is set. -/
theorem cn_deletion_exclusive (I : CNInst) (σ : CVar → Rat) (h : I.build.Sat σ)
    (d : String) (hd : I.delAllele = some d) (hdd : σ (.S d (-1)) = 1)
    (s : Slot) (hs : s ∈ I.slots) (hne : s.name ≠ d) : σ (sv s) = 0 := by
  have hF := sat_iff.mp h
  have hc := hF.del d hd s hs hne
  refine (hF.binS s hs).eq_zero_of_ne_one fun h1 => ?_
  rw [h1, hdd] at hc; norm_num at hc

/-- **cn_slot_order** the second haplotype slot of a configuration is used only with
the first; extra copies `i > 1` only with copy `i − 1`. -/
theorem cn_slot_order (I : CNInst) (σ : CVar → Rat) (h : I.build.Sat σ) (s : Slot) (hs : s ∈ I.slots) :
    (s.idx = -1 → σ (sv s) ≤ σ (.S s.name 0)) ∧ (s.idx > 1 → σ (sv s) ≤ σ (.S s.name (s.idx - 1))) :=
  (sat_iff.mp h).ord s hs

/-- **cn_extra_copies_are_default** a slot with positive index is an extra, pseudogene-free
copy of a DEFAULT-kind configuration or a pseudogene slot: fusion, deletion and custom
configurations own only the two complete slots, hence are used at most twice. -/
theorem cn_extra_copies_are_default (I : CNInst) (s : Slot) (hs : s ∈ I.slots) (hpos : s.idx > 0) :
    s.name = "PSEUDO" ∨ ∃ c ∈ I.baseConfigs, c.kind = .default ∧ c.name = s.name := by
  rcases List.mem_append.mp hs with hs | hps
  · rcases List.mem_append.mp hs with h0 | h1
    · obtain ⟨c, _, rfl⟩ := List.mem_map.mp h0
      exact absurd hpos (lt_irrefl 0)
    · obtain ⟨c, hc, hmem⟩ := List.mem_flatMap.mp h1
      rcases List.mem_cons.mp hmem with rfl | hmem
      · exact absurd hpos (by decide : ¬ (-1 : Int) > 0)
      · split_ifs at hmem with hk
        · obtain ⟨i, _, rfl⟩ := List.mem_map.mp hmem
          exact .inr ⟨c, hc, beq_iff_eq.mp hk, rfl⟩
        · cases hmem
  · left
    split at hps
    · split at hps
      · split at hps
        · obtain ⟨i, _, rfl⟩ := List.mem_map.mp hps
          rfl
        · cases hps
      · cases hps
    · cases hps

/-- **cn_errors_bounded** -/
theorem cn_errors_bounded (I : CNInst) (σ : CVar → Rat) (h : I.build.Sat σ)
    (rc : String × (Rat × Rat)) (hr : rc ∈ I.rows) :
    |σ (.E rc.1)| ≤ I.prof.cnMax ∧ |σ (.EG rc.1)| ≤ I.prof.cnMax ∧
    |σ (.E rc.1)| ≤ σ (.ABSE rc.1) ∧ |σ (.EG rc.1)| ≤ σ (.ABSEG rc.1) := by
  have hF := sat_iff.mp h
  exact ⟨hF.diffBound rc hr, hF.fitBound rc hr, hF.absDiff rc hr, hF.absFit rc hr⟩

/-- **cn_fit_rows** the error terms are exactly the documented residuals: gene-fit error
`g_r − Σ gene copies`, and scaled difference error
`((g_r − p_r) − (Σ gene copies − Σ pseudogene copies)) / (max(g_r, p_r) + 1)`. -/
theorem cn_fit_rows (I : CNInst) (σ : CVar → Rat) (h : I.build.Sat σ)
    (rc : String × (Rat × Rat)) (hr : rc ∈ I.rows) :
    σ (.EG rc.1) = rc.2.1 - evalTerms σ (I.geneTerms rc.1) ∧
    σ (.E rc.1) = (rc.2.1 - rc.2.2) / scaleOf rc.2.1 rc.2.2 -
      evalTerms σ (I.diffTerms rc.1 (scaleOf rc.2.1 rc.2.2)) := by
  have hF := sat_iff.mp h
  exact ⟨hF.errFit rc hr, hF.errDiff rc hr⟩

/-- **cn_objective** the objective is the documented one: weighted depth-difference helpers
+ gene-fit helpers + parsimony/fusion penalties of the set slots. -/
theorem cn_objective (I : CNInst) (σ : CVar → Rat) :
    I.build.objective σ =
      (I.rows.map fun rc => I.prof.cnDiff / I.nU *
          (if (CVar.E rc.1).name == Const.CN_PCE_VAR then I.prof.cnPcePenalty else 1) * σ (.ABSE rc.1)).sum +
      (I.rows.map fun rc => I.prof.cnFit / I.nU * σ (.ABSEG rc.1)).sum +
      (I.slots.map fun s => I.prof.cnParsimony * I.penalty s.name * σ (sv s)).sum :=
  objective_eq I σ

theorem cn_scale_pos (c0 c1 : Rat) (h0 : 0 ≤ c0) : 0 < scaleOf c0 c1 := by
  have hadd : 0 < Const.CN_SCALE_ADD := by unfold Const.CN_SCALE_ADD; norm_num
  unfold scaleOf
  split_ifs with hlt
  · exact add_pos_of_nonneg_of_pos (h0.trans hlt.le) hadd
  · exact add_pos_of_nonneg_of_pos h0 hadd

/-- **cn_objective_nonneg** absolute-error helpers are bounded below by 0, selectors are binary, and all
weights are non-negative -/
theorem cn_objective_nonneg (I : CNInst) (σ : CVar → Rat) (h : I.build.Sat σ)
    (hd : 0 ≤ I.prof.cnDiff) (hf : 0 ≤ I.prof.cnFit) (hp : 0 ≤ I.prof.cnParsimony) (hpce : 0 ≤ I.prof.cnPcePenalty)
    (hl : 0 ≤ I.prof.cnFusionLeft) (hr : 0 ≤ I.prof.cnFusionRight) :
    0 ≤ I.build.objective σ := by
  have hF := sat_iff.mp h
  rw [objective_eq]
  refine add_nonneg (add_nonneg ?_ ?_) ?_
  · exact sum_map_nonneg _ _ fun rc hrc =>
      mul_nonneg (I.rowWeight_nonneg hd hpce rc.1) ((abs_nonneg _).trans (hF.absDiff rc hrc))
  · exact sum_map_nonneg _ _ fun rc hrc =>
      mul_nonneg (div_nonneg hf I.nU_nonneg) ((abs_nonneg _).trans (hF.absFit rc hrc))
  · exact sum_map_nonneg _ _ fun s hs =>
      mul_nonneg (mul_nonneg hp (I.penalty_nonneg hl hr s.name)) (hF.binS s hs).nonneg

theorem foldCN_concat (del : Option String) (ys : List (Rat × List (String × Int))) (y : Rat × List (String × Int)) :
    foldCN del (ys ++ [y]) =
      if (foldCN del ys).any (fun e => e.1 == decodeCN del y.2) then foldCN del ys
      else foldCN del ys ++ [(decodeCN del y.2, y.1)] := by
  rw [foldCN, List.foldl_append]
  rfl

/-- The fold keeps one entry per structure, made from the **first** yield that decodes to it. -/
theorem foldCN_spec (del : Option String) (ys : List (Rat × List (String × Int))) :
    ((foldCN del ys).map (·.1)).Nodup ∧
    (∀ e ∈ foldCN del ys, ∃ pre y post, ys = pre ++ y :: post ∧ decodeCN del y.2 = e.1 ∧ y.1 = e.2 ∧
      ∀ y' ∈ pre, decodeCN del y'.2 ≠ e.1) ∧
    (∀ y ∈ ys, ∃ e ∈ foldCN del ys, e.1 = decodeCN del y.2) := by
  induction ys using List.reverseRecOn with
  | nil => exact ⟨List.nodup_nil, fun _ he => absurd he List.not_mem_nil, fun _ hy => absurd hy List.not_mem_nil⟩
  | append_singleton ys y0 ih =>
    obtain ⟨hnd, hfirst, hc⟩ := ih
    have hfirst' : ∀ e ∈ foldCN del ys, ∃ pre y post, ys ++ [y0] = pre ++ y :: post ∧ decodeCN del y.2 = e.1 ∧
        y.1 = e.2 ∧ ∀ y' ∈ pre, decodeCN del y'.2 ≠ e.1 := fun e he => by
      obtain ⟨pre, y, post, rfl, h⟩ := hfirst e he
      exact ⟨pre, y, post ++ [y0], by rw [List.append_assoc, List.cons_append], h⟩
    rw [foldCN_concat]
    split_ifs with hany <;> simp only [List.any_eq_true, beq_iff_eq] at hany
    · exact ⟨hnd, hfirst', List.forall_mem_append.mpr ⟨hc, List.forall_mem_singleton.mpr hany⟩⟩
    · refine ⟨?_, List.forall_mem_append.mpr ⟨hfirst', List.forall_mem_singleton.mpr ?_⟩,
        List.forall_mem_append.mpr ⟨fun y hy => ?_, List.forall_mem_singleton.mpr ?_⟩⟩
      · rw [List.map_append, List.nodup_append]
        refine ⟨hnd, List.pairwise_singleton _ _, fun a ha b hb hab => ?_⟩
        obtain ⟨e, he, rfl⟩ := List.mem_map.mp ha
        exact hany ⟨e, he, hab.trans (List.mem_singleton.mp hb)⟩
      · -- `y0` opens a new structure: no earlier yield decodes to it, or its entry would be there
        exact ⟨ys, y0, [], rfl, rfl, rfl, fun y hy hk => hany ((hc y hy).imp fun e h => ⟨h.1, h.2.trans hk⟩)⟩
      · exact (hc y hy).imp fun e h => ⟨List.mem_append_left _ h.1, h.2⟩
      · exact ⟨_, List.mem_append_right _ (List.mem_singleton_self _), rfl⟩

/-- **cn_fold_distinct** no structure is reported twice. -/
theorem cn_fold_distinct (del : Option String) (ys : List (Rat × List (String × Int))) :
    ((foldCN del ys).map (·.1)).Nodup := (foldCN_spec del ys).1

/-- **cn_fold_sound** every reported (structure, score) is the decoding of a yielded
assignment with exactly that objective. -/
theorem cn_fold_sound (del : Option String) (ys : List (Rat × List (String × Int)))
    (e : List String × Rat) (he : e ∈ foldCN del ys) :
    ∃ y ∈ ys, decodeCN del y.2 = e.1 ∧ y.1 = e.2 := by
  obtain ⟨pre, y, post, rfl, h1, h2, -⟩ := (foldCN_spec del ys).2.1 e he
  exact ⟨y, List.mem_append_right _ List.mem_cons_self, h1, h2⟩

/-- **cn_fold_complete** every yielded assignment's structure is reported. -/
theorem cn_fold_complete (del : Option String) (ys : List (Rat × List (String × Int)))
    (y : Rat × List (String × Int)) (hy : y ∈ ys) :
    ∃ e ∈ foldCN del ys, e.1 = decodeCN del y.2 := (foldCN_spec del ys).2.2 y hy

/-- **cn_fold_min** when yields arrive in non-decreasing objective order (C05 T4), the score
attached to a reported structure is the least objective among all yielded explanations of it. -/
theorem cn_fold_min (del : Option String) (ys : List (Rat × List (String × Int)))
    (hs : ys.Pairwise fun a b => a.1 ≤ b.1)
    (e : List String × Rat) (he : e ∈ foldCN del ys) :
    ∀ y ∈ ys, decodeCN del y.2 = e.1 → e.2 ≤ y.1 := by
  obtain ⟨pre, y0, post, rfl, -, h2, hpre⟩ := (foldCN_spec del ys).2.1 e he
  intro y hy hdec
  rcases List.mem_append.mp hy with hy | hy
  · exact absurd hdec (hpre y hy)
  · rcases List.mem_cons.mp hy with rfl | hy
    · exact h2.ge
    · exact h2 ▸ (List.pairwise_cons.mp (List.pairwise_append.mp hs).2.1).1 y hy

theorem cnDecision_user (g : GeneView) (sol : List String) (hne : sol ≠ [])
    (dcn male xy : Bool) (arc : List Rat) (rows : List (Rat × Rat)) :
    cnDecision g (some sol) dcn male xy arc rows =
      match sol.find? (fun s => (g.config? s).isNone) with
      | some bad => .unknownConfig bad
      | none => .user sol := by
  cases sol with
  | nil => exact absurd rfl hne
  | cons _ _ => rfl

/-- **cn_user_verbatim** a non-empty user structure of known configurations is used as is. -/
theorem cn_user_verbatim (g : GeneView) (sol : List String) (hne : sol ≠ [])
    (hknown : ∀ s ∈ sol, (g.config? s).isSome) (dcn male xy : Bool) (arc : List Rat) (rows : List (Rat × Rat)) :
    cnDecision g (some sol) dcn male xy arc rows = .user sol := by
  have hnone : sol.find? (fun s => (g.config? s).isNone) = none :=
    List.find?_eq_none.mpr fun s hs => by simp [Option.isSome_iff_ne_none.mp (hknown s hs)]
  rw [cnDecision_user g sol hne, hnone]

/-- **cn_unknown_rejected** a user structure with an unknown configuration name is rejected. -/
theorem cn_unknown_rejected (g : GeneView) (sol : List String)
    (s : String) (hs : s ∈ sol) (hunk : (g.config? s).isNone) (dcn male xy : Bool) (arc : List Rat) (rows : List (Rat × Rat)) :
    ∃ bad, cnDecision g (some sol) dcn male xy arc rows = .unknownConfig bad ∧ bad ∈ sol ∧ (g.config? bad).isNone := by
  rw [cnDecision_user g sol (List.ne_nil_of_mem hs)]
  cases hf : sol.find? (fun s => (g.config? s).isNone) with
  | none => exact absurd hunk (by simpa using List.find?_eq_none.mp hf s hs)
  | some bad => exact ⟨bad, rfl, List.mem_of_find?_eq_some hf, List.find?_some (p := fun s => (g.config? s).isNone) hf⟩

/-- **cn_default_two** where copy-number calling is unavailable and no structure is given,
exactly two default copies are assumed - one for an X/Y-linked gene of a male sample. -/
theorem cn_default_two (g : GeneView) (male xy : Bool) (arc : List Rat) (rows : List (Rat × Rat)) :
    cnDecision g none false male xy arc rows =
      .fixed (List.replicate (if male && xy then 1 else 2)
        (((g.cnConfigs.filter fun c => c.kind == .default).map (·.name)).headD "1")) := rfl

/-! ### non-vacuity: a gene with one default and one deletion configuration; `exCNσ` selects two default copies -/
def exCNGene : GeneView :=
  { name := "G", regionNames := ["e1"], nGenes := 1, uniqueRegions := ["e1"], regionAt := [],
    mutations := [], alleles := [],
    cnConfigs := [⟨"1", .default, [[("e1", 1)]], []⟩, ⟨"5", .deletion, [[("e1", 0)]], []⟩] }
def exProf : ProfileV :=
  { threshold := 1/2, minCoverage := 2, minQuality := 10, minMapq := 10, cnMax := 20, gap := 0, cnPcePenalty := 2,
    cnDiff := 10, cnFit := 1, cnParsimony := 1/2, cnFusionLeft := 1/2, cnFusionRight := 1/4, majorNovel := 21,
    minorMiss := 3/2, minorAdd := 1, minorPhase := 2/5 }
def exCN : CNInst :=
  { gene := exCNGene, prof := exProf, configs := exCNGene.cnConfigs, maxCn := 3,
    regionCov := [("e1", (2, 0))], fusionSupport := [] }
def exCNσ : CVar → Rat
  | .S "1" 0 => 1 | .S "1" (-1) => 1 | _ => 0
example : (exCN.slots.map fun s => (s.name, s.idx)) =
    [("1", 0), ("5", 0), ("1", -1), ("1", 1), ("1", 2), ("5", -1)] := by decide +kernel
example : ∀ c ∈ exCN.build.cons, c.holds exCNσ := by decide +kernel
example : foldCN (some "5") [(1, [("1", 0), ("1", -1)]), (2, [("1", 0), ("5", 0), ("1", 1)]), (3, [("5", 0), ("5", -1)])]
    = [(["1", "1"], 1), ([], 3)] := by decide +kernel

end Aldy
