import Aldy.Props.C06
import Aldy.Lemmas.Keyed
import Mathlib.Algebra.Ring.Rat
import Mathlib.Data.List.Induction

/-!
# C06, continued — from the observations of the reads to `Coverage.total(pos)`

`_make_coverage` files every observation under its position and allele: `addObs` is an `upsert` of
the site whose new value is an `upsert` of the allele (`Lemmas/Keyed.lean`); nothing else about it
is used.
-/

namespace Aldy

abbrev OpsT := List (String × List Obs)
abbrev TableT := List (Int × OpsT)

def TableInv (t : TableT) : Prop := ∀ e ∈ t, (e.2.map (·.1)).Nodup

def opsDepth (ops : OpsT) : Nat := (ops.map fun x => if opIsIns x.1 then 0 else x.2.length).sum

theorem totalPos_eq (c : Cov) (p : Int) : c.totalPos p = (opsDepth (c.ops p) : Rat) := by
  unfold Cov.totalPos opsDepth
  induction c.ops p with
  | nil => rfl
  | cons x xs ih =>
    obtain ⟨op, q⟩ := x
    rw [List.map_cons, List.sum_cons, Nat.cast_add, ← ih, List.filter_cons]
    cases h : opIsIns op <;> simp [h]

theorem addObs_eq_upsert (t : TableT) (pos : Int) (op : String) (o : Obs) :
    addObs t pos op o = upsert t pos (fun ops => upsert ops op (· ++ [o]) [o]) [(op, [o])] := rfl

theorem addObs_inv (t : TableT) (pos : Int) (op : String) (o : Obs) (h : TableInv t) :
    TableInv (addObs t pos op o) := by
  rw [addObs_eq_upsert]
  exact forall_mem_upsert (fun e : Int × OpsT => (e.2.map Prod.fst).Nodup) t pos _ _ h
    (fun e he _ => nodup_keys_upsert e.2 op (· ++ [o]) [o] (h e he))
    (List.nodup_cons.mpr ⟨List.not_mem_nil, List.nodup_nil⟩)

theorem opsDepth_upsert (ops : OpsT) (op : String) (o : Obs) (h : (ops.map (·.1)).Nodup) :
    opsDepth (upsert ops op (· ++ [o]) [o]) = opsDepth ops + if !opIsIns op then 1 else 0 := by
  refine sum_map_upsert _ ops op _ _ _ h (fun v => ?_) ?_
  · dsimp only
    cases opIsIns op
    · exact List.length_append
    · rfl
  · dsimp only
    cases opIsIns op <;> rfl

theorem addObs_depth (t : TableT) (pos : Int) (op : String) (o : Obs) (h : TableInv t) (p : Int) :
    opsDepth (((addObs t pos op o).lookup p).getD []) =
      opsDepth ((t.lookup p).getD []) + (if pos == p && !opIsIns op then 1 else 0) := by
  rw [addObs_eq_upsert, lookup_upsert, Bool.beq_comm]
  cases hp : pos == p
  · rw [if_neg Bool.false_ne_true]; rfl
  · obtain rfl := eq_of_beq hp
    rw [if_pos rfl, Option.getD_some, Bool.true_and]
    -- a site that is not there yet is an empty site
    cases hl : t.lookup pos with
    | none => exact opsDepth_upsert [] op o List.nodup_nil
    | some v => exact opsDepth_upsert v op o (h _ (mem_of_lookup_eq_some hl))

def filedOp (l : LocusV) (e : Ev) : String :=
  if e.op != "_" && !l.inBounds e.pos && !opIsIns e.op then "_" else e.op

theorem filedOp_isIns (l : LocusV) (e : Ev) : opIsIns (filedOp l e) = opIsIns e.op := by
  unfold filedOp
  split
  · next h =>
    simp only [Bool.and_eq_true, Bool.not_eq_true'] at h
    rw [h.2]
    exact opIsIns_ref
  · rfl

theorem makeTable_concat (l : LocusV) (evs : List Ev) (e : Ev) :
    makeTable l (evs ++ [e]) = addObs (makeTable l evs) e.pos (filedOp l e) e.obs :=
  List.foldl_concat ..

/-- **makeTable_inv** every site of the table `_make_coverage` builds lists each allele once. -/
theorem makeTable_inv (l : LocusV) (evs : List Ev) : TableInv (makeTable l evs) := by
  induction evs using List.reverseRecOn with
  | nil => exact List.forall_mem_nil _
  | append_singleton es e ih => rw [makeTable_concat]; exact addObs_inv _ _ _ _ ih

theorem makeTable_depth (l : LocusV) (evs : List Ev) (p : Int) :
    opsDepth (((makeTable l evs).lookup p).getD []) = depthAt evs p := by
  induction evs using List.reverseRecOn with
  | nil => rfl
  | append_singleton es e ih =>
    rw [makeTable_concat, addObs_depth _ _ _ _ (makeTable_inv l es), ih, filedOp_isIns, depthAt_append]
    congr 1
    rw [depthAt, List.filter_singleton]
    cases e.pos == p && !opIsIns e.op <;> rfl

/-- **makeTable_totalPos** `Coverage.total(pos)` of the sample's table is the number of
non-insertion observations the reads produced at `pos` - whatever the indel table (`Cov.make`
drops parsed insertions, which `total` does not count anyway). -/
theorem makeTable_totalPos (l : LocusV) (evs : List Ev) (p : Int) :
    (⟨makeTable l evs, []⟩ : Cov).totalPos p = (depthAt evs p : Rat) := by
  rw [totalPos_eq]
  exact congrArg Nat.cast (makeTable_depth l evs p)

/-- **total_is_spanning_reads** at a position away from catalogued multi-substitution
sites, `Coverage.total(pos)` of the table built from a read set is the number of reads whose
alignment spans `pos`. -/
theorem total_is_spanning_reads (l : LocusV) (reads : List ReadV) (p : Int)
    (h : ∀ site ∈ l.multiSites, siteTouches site p = false) :
    (⟨makeTable l (reads.flatMap fun r => (parseRead l r).1), []⟩ : Cov).totalPos p =
      ((reads.filter fun r => decide (r.refStart ≤ p ∧ p < r.refStart + refLen r.cigar)).length : Rat) := by
  rw [makeTable_totalPos, depth_total_general l reads p h]

end Aldy
