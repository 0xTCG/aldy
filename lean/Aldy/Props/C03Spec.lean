import Aldy.Props.C03
import Aldy.Lemmas.Keyed

/-!
# C03 — the score of a gene structure is the documented one, and it is attained

`CNInst.specCN I σ` (`Model/CN.lean`) is the documented score of a selection of structure slots:
weighted absolute gene-minus-pseudogene residuals + absolute gene-fit residuals + parsimony /
fusion penalties of the selected slots.  It never looks at the error variables of the ILP.  Every
selection that satisfies the three structural constraint families (two complete haplotypes, deletion
exclusivity, slot order) and leaves every residual within `cn_max` is the selection of a feasible point
whose objective **is** its documented score (`cn_decision_achievable`).
-/

namespace Aldy
open CNInst

theorem absC_eq_abs (x : Rat) : absC x = |x| := ite_neg_eq_abs x

/-- error variables of region `r` in the completed point: the residuals of the first row named `r` -/
def rowOf (I : CNInst) (r : String) : Option (String × (Rat × Rat)) := I.rows.find? fun rc => rc.1 == r

/-- a selection of slots completed with the residuals it leaves and their absolute values -/
def compσ (I : CNInst) (σ : CVar → Rat) : CVar → Rat
  | .S n i => σ (.S n i)
  | .EG r => match rowOf I r with | some rc => I.fitErr σ rc | none => 0
  | .E r => match rowOf I r with | some rc => I.diffErr σ rc | none => 0
  | .ABSEG r => match rowOf I r with | some rc => |I.fitErr σ rc| | none => 0
  | .ABSE r => match rowOf I r with | some rc => |I.diffErr σ rc| | none => 0

theorem comp_sv (I : CNInst) (σ : CVar → Rat) (s : Slot) : compσ I σ (sv s) = σ (sv s) := rfl

theorem geneTerms_slot_vars (I : CNInst) (r : String) : ∀ t ∈ I.geneTerms r, ∃ s, t.2 = sv s := by
  simp only [geneTerms, List.forall_mem_filterMap, Option.map_eq_some_iff]
  rintro s _ t ⟨k, _, rfl⟩
  exact ⟨s, rfl⟩

theorem diffTerms_slot_vars (I : CNInst) (r : String) (scale : Rat) : ∀ t ∈ I.diffTerms r scale, ∃ s, t.2 = sv s := by
  have one : ∀ (s : Slot) (o : Option Int) (f : Int → Rat),
      ∀ t : Rat × CVar, t ∈ (match o with | some k => [(f k, sv s)] | none => []) → ∃ s, t.2 = sv s := by
    rintro s (_ | k) f t ht
    · cases ht
    · exact ⟨s, by rw [List.mem_singleton.mp ht]⟩
  simp only [diffTerms, List.forall_mem_flatMap, List.forall_mem_append]
  refine fun s _ => ⟨one s _ _, ?_⟩
  split_ifs
  · exact one s _ _
  · exact fun _ h => absurd h List.not_mem_nil

theorem comp_evalTerms (I : CNInst) (σ : CVar → Rat) (ts : List (Rat × CVar)) (h : ∀ t ∈ ts, ∃ s, t.2 = sv s) :
    evalTerms (compσ I σ) ts = evalTerms σ ts :=
  evalTerms_congr _ _ ts fun t ht => by
    obtain ⟨s, hs⟩ := h t ht
    rw [hs, comp_sv]

theorem comp_fitErr (I : CNInst) (σ : CVar → Rat) (rc : String × (Rat × Rat)) :
    I.fitErr (compσ I σ) rc = I.fitErr σ rc := by
  rw [fitErr, fitErr, comp_evalTerms I σ _ (geneTerms_slot_vars I _)]

theorem comp_diffErr (I : CNInst) (σ : CVar → Rat) (rc : String × (Rat × Rat)) :
    I.diffErr (compσ I σ) rc = I.diffErr σ rc := by
  rw [diffErr, diffErr, comp_evalTerms I σ _ (diffTerms_slot_vars I _ _)]

/-- `hnd`: the rows are the items of the dictionary `region_coverage` of `solve_cn_model`, whose keys
are the names; `opCNSpec` (Driver/C03) reports it with every instance as `rows_nodup`. -/
theorem compσ_row (I : CNInst) (σ : CVar → Rat) (hnd : (I.rows.map (·.1)).Nodup) :
    (∀ rc ∈ I.rows, compσ I σ (.EG rc.1) = I.fitErr σ rc) ∧
    (∀ rc ∈ I.rows, compσ I σ (.E rc.1) = I.diffErr σ rc) ∧
    (∀ rc ∈ I.rows, compσ I σ (.ABSEG rc.1) = |I.fitErr σ rc|) ∧
    ∀ rc ∈ I.rows, compσ I σ (.ABSE rc.1) = |I.diffErr σ rc| := by
  have hrow : ∀ rc ∈ I.rows, rowOf I rc.1 = some rc := fun _ hr => find?_key_of_mem Prod.fst hnd hr
  refine ⟨fun rc hr => ?_, fun rc hr => ?_, fun rc hr => ?_, fun rc hr => ?_⟩ <;> simp only [compσ, hrow rc hr]

structure CNAdmissible (I : CNInst) (σ : CVar → Rat) : Prop where
  bin : ∀ s ∈ I.slots, IsBin (σ (sv s))
  diplo : ∀ c ∈ I.consDIPLO, c.holds σ
  del : ∀ c ∈ I.consDEL, c.holds σ
  ord : ∀ c ∈ I.consORD, c.holds σ
  fitBound : ∀ rc ∈ I.rows, |I.fitErr σ rc| ≤ I.prof.cnMax
  diffBound : ∀ rc ∈ I.rows, |I.diffErr σ rc| ≤ I.prof.cnMax

/-- **cn_decision_achievable** -/
theorem cn_decision_achievable (I : CNInst) (σ : CVar → Rat) (hA : CNAdmissible I σ)
    (hnd : (I.rows.map (·.1)).Nodup) :
    I.build.Sat (compσ I σ) ∧ I.build.objective (compσ I σ) = I.specCN σ := by
  obtain ⟨hEG, hE, hAEG, hAE⟩ := compσ_row I σ hnd
  constructor
  · -- the three structural families read selectors only, where `compσ I σ` is `σ`
    exact sat_iff.mpr
      { binS := hA.bin
        diplo := (sumVars_congr (compσ I σ) σ _ (List.forall_mem_map.mpr fun s _ => comp_sv I σ s)).trans
          (consDIPLO_holds.mp hA.diplo)
        del := (consDEL_holds (σ := σ)).mp hA.del
        ord := (consORD_holds (σ := σ)).mp hA.ord
        fitBound := fun rc hr => by rw [hEG rc hr]; exact hA.fitBound rc hr
        diffBound := fun rc hr => by rw [hE rc hr]; exact hA.diffBound rc hr
        errFit := fun rc hr => by rw [comp_fitErr]; exact hEG rc hr
        errDiff := fun rc hr => by rw [comp_diffErr]; exact hE rc hr
        absFit := fun rc hr => by rw [hEG rc hr, hAEG rc hr]
        absDiff := fun rc hr => by rw [hE rc hr, hAE rc hr] }
  · rw [objective_eq]
    unfold specCN
    -- the penalty sums agree term by term; in the two error sums the helpers are the absolute residuals
    congr 2 <;> refine congrArg List.sum (List.map_congr_left fun rc hr => ?_)
    · rw [hAE rc hr, absC_eq_abs]
    · rw [hAEG rc hr, absC_eq_abs]

/-- **cn_spec_lower_bound** -/
theorem cn_spec_lower_bound (I : CNInst) (σ : CVar → Rat) (h : I.build.Sat σ)
    (hd : 0 ≤ I.prof.cnDiff) (hf : 0 ≤ I.prof.cnFit) (hpce : 0 ≤ I.prof.cnPcePenalty) :
    I.specCN σ ≤ I.build.objective σ := by
  have hF := sat_iff.mp h
  rw [objective_eq]
  unfold specCN
  -- row by row: the helper dominates the absolute value of the error variable, which is the residual
  refine add_le_add (add_le_add ?_ ?_) le_rfl
  · refine sum_map_le _ _ _ fun rc hr => ?_
    rw [absC_eq_abs, ← hF.errDiff rc hr]
    exact mul_le_mul_of_nonneg_left (hF.absDiff rc hr) (I.rowWeight_nonneg hd hpce rc.1)
  · refine sum_map_le _ _ _ fun rc hr => ?_
    rw [absC_eq_abs, ← hF.errFit rc hr]
    exact mul_le_mul_of_nonneg_left (hF.absFit rc hr) (div_nonneg hf I.nU_nonneg)

/-- **cn_admissible_of_sat** -/
theorem cn_admissible_of_sat (I : CNInst) (σ : CVar → Rat) (h : I.build.Sat σ) : CNAdmissible I σ := by
  have hF := sat_iff.mp h
  exact
    { bin := hF.binS
      diplo := consDIPLO_holds.mpr hF.diplo
      del := consDEL_holds.mpr hF.del
      ord := consORD_holds.mpr hF.ord
      fitBound := fun rc hr => by rw [← hF.errFit rc hr]; exact hF.fitBound rc hr
      diffBound := fun rc hr => by rw [← hF.errDiff rc hr]; exact hF.diffBound rc hr }

/-- **cn_optimum_is_spec_min** END TO END for the structure model: the objective of any optimum is
the documented score of its selection of slots, and no admissible selection has a lower
documented score -/
theorem cn_optimum_is_spec_min (I : CNInst) (σ : CVar → Rat) (h : I.build.Sat σ)
    (hopt : ∀ τ, I.build.Sat τ → I.build.objective σ ≤ I.build.objective τ)
    (hnd : (I.rows.map (·.1)).Nodup)
    (hd : 0 ≤ I.prof.cnDiff) (hf : 0 ≤ I.prof.cnFit) (hpce : 0 ≤ I.prof.cnPcePenalty) :
    I.build.objective σ = I.specCN σ ∧ ∀ τ, CNAdmissible I τ → I.specCN σ ≤ I.specCN τ :=
  I.build.optimum_is_spec_min (CNAdmissible I) I.specCN
    (fun τ hτ => ⟨compσ I τ, cn_decision_achievable I τ hτ hnd⟩)
    σ hopt σ (cn_admissible_of_sat I σ h) (cn_spec_lower_bound I σ h hd hf hpce)

/-! ### non-vacuity: the selection of the example of C03 (two copies of `1`) satisfies the structural families -/
example : ∀ c ∈ exCN.consDIPLO ++ exCN.consDEL ++ exCN.consORD, c.holds exCNσ := by decide +kernel
example : ∀ s ∈ exCN.slots, exCNσ (sv s) = 0 ∨ exCNσ (sv s) = 1 := by decide +kernel

end Aldy
