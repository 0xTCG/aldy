import Aldy.Props.C04Score

/-!
# C04 — at an optimum the score is the documented objective of the reported assignment

The refinement model carries one helper `ABS m` per error row, with the two constraints `ABS ≥ ±E`
and weight 1 in the objective; no other constraint mentions a helper (`noabs_cons`, family by
family).  So the helpers of a feasible point can be lowered to the absolute row errors, and at an
optimum there is nothing to lower.
-/

namespace Aldy
open MinorInst

def usesAbs : NVar → Bool
  | .ABS _ => true
  | _ => false

@[simp] theorem usesAbs_A (s : MSlot) : usesAbs (.A s) = false := rfl
@[simp] theorem usesAbs_K (m : Mut) (s : MSlot) : usesAbs (.K m s) = false := rfl
@[simp] theorem usesAbs_MULK (m : Mut) (s : MSlot) : usesAbs (.MULK m s) = false := rfl
@[simp] theorem usesAbs_N (m : Mut) (s : MSlot) : usesAbs (.N m s) = false := rfl
@[simp] theorem usesAbs_MULN (m : Mut) (s : MSlot) : usesAbs (.MULN m s) = false := rfl
@[simp] theorem usesAbs_E (m : Mut) : usesAbs (.E m) = false := rfl
@[simp] theorem usesAbs_ABS (m : Mut) : usesAbs (.ABS m) = true := rfl
@[simp] theorem usesAbs_VNEWOR (m : Mut) : usesAbs (.VNEWOR m) = false := rfl
@[simp] theorem usesAbs_PH (a r : Nat) : usesAbs (.PH a r) = false := rfl
@[simp] theorem usesAbs_PH2 (a r i : Nat) : usesAbs (.PH2 a r i) = false := rfl
@[simp] theorem usesAbs_PH3 (a r i : Nat) : usesAbs (.PH3 a r i) = false := rfl

def tighten (σ : NVar → Rat) : NVar → Rat
  | .ABS m => |σ (.E m)|
  | v => σ v

theorem tighten_eq (σ : NVar → Rat) (v : NVar) (h : usesAbs v = false) : tighten σ v = σ v := by
  cases v
  case ABS m => rw [usesAbs_ABS] at h; cases h
  all_goals rfl

theorem holds_tighten (σ : NVar → Rat) (c : LinCon NVar) (h : c.terms.all (fun t => !usesAbs t.2) = true) :
    c.holds (tighten σ) ↔ c.holds σ :=
  holds_congr _ _ c fun t ht => tighten_eq σ t.2 (Bool.not_eq_true' _ ▸ List.all_eq_true.mp h t ht)

section Families
variable (I : MinorInst)

theorem consCORD_noabs : ∀ c ∈ I.consCORD, ∀ t ∈ c.terms, usesAbs t.2 = false := by
  simp only [consCORD, List.forall_mem_map, @forall_terms_leVar NVar (fun v => usesAbs v = false), usesAbs_A, and_self,
    implies_true]

theorem consCCNT_noabs : ∀ c ∈ I.consCCNT, ∀ t ∈ c.terms, usesAbs t.2 = false := by
  simp only [consCCNT, List.forall_mem_append, List.forall_mem_flatMap, List.forall_mem_cons, List.not_mem_nil,
    List.forall_mem_map, one_snd, usesAbs_A, false_imp_iff, implies_true, and_self]

theorem consPROD_noabs : ∀ c ∈ I.consPROD, ∀ t ∈ c.terms, usesAbs t.2 = false := by
  simp only [consPROD, List.forall_mem_flatMap, forall_mem_ite, @forall_terms_prodCons NVar (fun v => usesAbs v = false),
    List.forall_mem_cons, List.not_mem_nil, usesAbs_A, usesAbs_K, usesAbs_MULK, usesAbs_N, usesAbs_MULN, false_imp_iff,
    implies_true, and_self]

theorem consCONE_noabs : ∀ c ∈ I.consCONE, ∀ t ∈ c.terms, usesAbs t.2 = false := by
  simp only [consCONE, List.forall_mem_flatMap, List.forall_mem_filterMap, Option.ite_none_right_eq_some,
    Option.some.injEq, and_imp]
  rintro pos _ cs _ c _ rfl
  exact List.forall_mem_map.mpr fun m _ => usesAbs_N m cs.2

theorem consCCOV_noabs : ∀ c ∈ I.consCCOV, ∀ t ∈ c.terms, usesAbs t.2 = false := by
  simp only [consCCOV, eqc, List.forall_mem_append, List.forall_mem_flatMap, List.forall_mem_cons, List.not_mem_nil,
    one_snd, usesAbs_E, false_imp_iff, implies_true, and_true, and_self]
  refine ⟨fun m _ t ht => ?_, fun pos _ t ht => ?_⟩
  · obtain ⟨cs, _, ⟨_, rfl⟩ | ⟨_, _, rfl⟩⟩ := mem_varTerms ht
    · exact usesAbs_MULK _ _
    · exact usesAbs_MULN _ _
  · obtain ⟨cs, _, rfl | ⟨p, _, rfl⟩ | ⟨m, _, rfl⟩⟩ := mem_refTerms ht
    · exact usesAbs_A _
    · exact usesAbs_MULK _ _
    · exact usesAbs_MULN _ _

theorem consRULE1_noabs : ∀ c ∈ I.consRULE1, ∀ t ∈ c.terms, usesAbs t.2 = false := by
  simp only [consRULE1, List.forall_mem_append, List.forall_mem_flatMap, List.forall_mem_map,
    @forall_terms_leVar NVar (fun v => usesAbs v = false), usesAbs_A, usesAbs_K, usesAbs_N, and_self, implies_true]

theorem consRULE2_noabs : ∀ c ∈ I.consRULE2, ∀ t ∈ c.terms, usesAbs t.2 = false := by
  simp only [consRULE2, List.forall_mem_flatMap, List.forall_mem_map, List.forall_mem_cons, List.not_mem_nil,
    one_snd, neg_snd, usesAbs_A, usesAbs_K, false_imp_iff, implies_true, and_self]

theorem consRULE3_noabs : ∀ c ∈ I.consRULE3, ∀ t ∈ c.terms, usesAbs t.2 = false := by
  simp only [consRULE3, List.forall_mem_flatMap, List.forall_mem_map, List.forall_mem_cons, List.not_mem_nil,
    one_snd, usesAbs_K, false_imp_iff, implies_true, and_self]

theorem consRULE4_noabs : ∀ c ∈ I.consRULE4, ∀ t ∈ c.terms, usesAbs t.2 = false := by
  simp only [consRULE4, List.forall_mem_flatMap, List.forall_mem_append, forall_mem_ite, List.forall_mem_cons,
    List.forall_mem_map, List.not_mem_nil, one_snd, usesAbs_MULK, usesAbs_MULN, false_imp_iff, implies_true, and_self]

theorem consRULE5_noabs : ∀ c ∈ I.consRULE5, ∀ t ∈ c.terms, usesAbs t.2 = false := by
  simp only [consRULE5, List.forall_mem_flatMap, forall_mem_ite, List.forall_mem_cons, List.not_mem_nil,
    false_imp_iff, implies_true, and_true, and_self]
  intro m _
  have key : ∀ t ∈ I.carrierTerms m, usesAbs t.2 = false := fun t ht => by
    obtain ⟨cs, _, ⟨_, rfl⟩ | ⟨_, rfl⟩⟩ := mem_carrierTerms ht
    · exact usesAbs_MULK _ _
    · exact usesAbs_MULN _ _
  exact ⟨fun _ => key, fun _ => key⟩

theorem consRULE6_noabs : ∀ c ∈ I.consRULE6, ∀ t ∈ c.terms, usesAbs t.2 = false := by
  simp only [consRULE6, rule6Per, forall_mem_ite, List.forall_mem_map, List.forall_mem_flatMap, List.forall_mem_cons,
    List.forall_mem_append, List.not_mem_nil, neg_snd, usesAbs_A, usesAbs_MULK, usesAbs_MULN, false_imp_iff,
    implies_true, and_self]

theorem consPHASE_noabs : ∀ c ∈ I.consPHASE, ∀ t ∈ c.terms, usesAbs t.2 = false := by
  simp only [consPHASE, List.forall_mem_append, List.forall_mem_flatMap, List.forall_mem_cons, List.forall_mem_map,
    forall_mem_ite, @forall_terms_leVar NVar (fun v => usesAbs v = false),
    @forall_terms_prodCons NVar (fun v => usesAbs v = false), List.not_mem_nil, one_snd, usesAbs_A, usesAbs_PH,
    usesAbs_PH2, usesAbs_PH3, false_imp_iff, implies_true, and_true, true_and, and_self]
  exact fun c hc => phaseCell_forall (Q := fun v => usesAbs v = false) (fun cs _ m _ => usesAbs_K m cs.2)
    (fun cs _ m _ => usesAbs_N m cs.2) hc

theorem consVNEWOR_noabs : ∀ c ∈ I.consVNEWOR, ∀ t ∈ c.terms, usesAbs t.2 = false := by
  simp only [consVNEWOR, List.forall_mem_flatMap, @forall_terms_orCons NVar (fun v => usesAbs v = false),
    usesAbs_VNEWOR, true_and]
  intro m _ v hv
  obtain ⟨cs, _, _, rfl⟩ := mem_novelCoreSel hv
  exact usesAbs_N _ _

end Families

theorem noabs_cons (I : MinorInst) (c : LinCon NVar)
    (hc : c ∈ I.consCORD ∨ c ∈ I.consCCNT ∨ c ∈ I.consPROD ∨ c ∈ I.consCONE ∨ c ∈ I.consCCOV ∨ c ∈ I.consRULE1 ∨
      c ∈ I.consRULE2 ∨ c ∈ I.consRULE3 ∨ c ∈ I.consRULE4 ∨ c ∈ I.consRULE5 ∨ c ∈ I.consRULE6 ∨ c ∈ I.consPHASE ∨
      c ∈ I.consVNEWOR) : c.terms.all (fun t => !usesAbs t.2) = true := by
  simp only [List.all_eq_true, Bool.not_eq_true']
  rcases hc with h | h | h | h | h | h | h | h | h | h | h | h | h
  · exact consCORD_noabs I c h
  · exact consCCNT_noabs I c h
  · exact consPROD_noabs I c h
  · exact consCONE_noabs I c h
  · exact consCCOV_noabs I c h
  · exact consRULE1_noabs I c h
  · exact consRULE2_noabs I c h
  · exact consRULE3_noabs I c h
  · exact consRULE4_noabs I c h
  · exact consRULE5_noabs I c h
  · exact consRULE6_noabs I c h
  · exact consPHASE_noabs I c h
  · exact consVNEWOR_noabs I c h

theorem MinorInst.mem_cons (I : MinorInst) (c : LinCon NVar) : c ∈ I.build.cons ↔ c ∈ I.consABS ∨
    (c ∈ I.consCORD ∨ c ∈ I.consCCNT ∨ c ∈ I.consPROD ∨ c ∈ I.consCONE ∨ c ∈ I.consCCOV ∨ c ∈ I.consRULE1 ∨
      c ∈ I.consRULE2 ∨ c ∈ I.consRULE3 ∨ c ∈ I.consRULE4 ∨ c ∈ I.consRULE5 ∨ c ∈ I.consRULE6 ∨ c ∈ I.consPHASE ∨
      c ∈ I.consVNEWOR) := by
  -- `build.cons` is `(the twelve other families ++ consABS) ++ consVNEWOR`
  simp only [build]
  rw [List.mem_append, List.mem_append, or_right_comm, or_comm]
  simp only [List.mem_append, or_assoc]

/-- **minor_tighten** replacing every helper by the absolute row error keeps a point feasible, and
lowers its objective by exactly the slack of the helpers -/
theorem minor_tighten (I : MinorInst) (σ : NVar → Rat) (h : I.build.Sat σ) :
    I.build.Sat (tighten σ) ∧
    I.build.objective σ - I.build.objective (tighten σ) =
      (I.errRows.map fun m => σ (.ABS m) - |σ (.E m)|).sum := by
  constructor
  · constructor
    · obtain ⟨bA, bK, bN, -, bV, bPH⟩ := vars_ok.mp h.1
      exact vars_ok.mpr ⟨bA, bK, bN, fun _ _ => abs_nonneg _, bV, bPH⟩
    · intro c hc
      rcases (mem_cons I c).mp hc with hm | hm
      · obtain ⟨m, _, hm⟩ := List.mem_flatMap.mp hm
        exact (abs_gadget (tighten σ) (.ABS m) (.E m)).mpr (le_refl _) c hm
      · exact (holds_tighten σ c (noabs_cons I c hm)).mpr (h.2 c hc)
  · -- the closed forms differ in the helpers only
    rw [minor_score_closed_form I σ, minor_score_closed_form I (tighten σ), ← sum_sub_sum]
    simp only [tighten, sumVars, List.map_map, Function.comp_def]
    ring

/-- **minor_optimum_abs_tight** -/
theorem minor_optimum_abs_tight (I : MinorInst) (σ : NVar → Rat) (h : I.build.Sat σ)
    (hopt : ∀ τ, I.build.Sat τ → I.build.objective σ ≤ I.build.objective τ) :
    ∀ m ∈ I.errRows, σ (.ABS m) = |σ (.E m)| := by
  obtain ⟨hs, hd⟩ := minor_tighten I σ h
  -- the slacks are non-negative and sum to the drop of the objective, which optimality makes non-positive
  have hz := sum_nonneg_eq_zero I.errRows (fun m => σ (.ABS m) - |σ (.E m)|)
    (fun m hm => sub_nonneg.mpr ((sat_iff.mp h).abs m hm)) (hd ▸ sub_nonpos.mpr (hopt _ hs))
  exact fun m hm => sub_eq_zero.mp (hz m hm)

/-- **minor_optimum_score_is_documented** the objective of an optimum of the refinement model is
the documented objective of the assignment it reports: the reading of Props/C04Score with, in place
of the helpers, the absolute fit error of every variant and reference row (observed copies minus
carried copies) -/
theorem minor_optimum_score_is_documented (I : MinorInst) (σ : NVar → Rat) (h : I.build.Sat σ)
    (hopt : ∀ τ, I.build.Sat τ → I.build.objective σ ≤ I.build.objective τ) :
    I.build.objective σ =
      (I.mutations.map fun m => |I.observed m - evalTerms σ (I.varTerms m)|).sum +
      (I.positions.map fun pos => |I.observed (refMut' pos) - evalTerms σ (I.refTerms pos)|).sum +
      I.minorMiss * (I.slots.map fun cs => (cs.1.defMuts.map fun m => σ (.A cs.2) - σ (.MULK m cs.2)).sum).sum +
      (I.newSelectors.zipIdx.map fun e =>
          I.minorAdd * (1 + (e.2 : Rat) / Const.MINOR_TIEBREAK_DIV) * σ (.N e.1.1 e.1.2)).sum +
      I.minorAdd / Const.MINOR_NOVEL_DIV * sumVars σ (I.novelMuts.map NVar.VNEWOR) +
      I.minorPhase * (I.phaseCells.map fun c => (c.cnt : Rat) *
          (((c.pos.zipIdx).map fun vi => σ (.PH c.ai c.ri) - σ (.PH2 c.ai c.ri vi.2)).sum +
           ((c.neg.zipIdx).map fun vi => σ (.PH3 c.ai c.ri vi.2)).sum)).sum := by
  obtain ⟨tightVar, tightRef⟩ := forall_errRows.mp (minor_optimum_abs_tight I σ h hopt)
  rw [minor_score_closed_form I σ, sum_errRows,
    sum_map_congr I.mutations _ _ fun m hm => (tightVar m hm).trans (congrArg abs ((sat_iff.mp h).errVar m hm)),
    sum_map_congr I.positions _ _ fun pos hp => (tightRef pos hp).trans (congrArg abs ((sat_iff.mp h).errRef pos hp))]

end Aldy
