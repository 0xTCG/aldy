import Aldy.Model.World
import Aldy.Props.C13
import Aldy.Lemmas.MutOrder
import Mathlib.Data.List.Sort
import Mathlib.Data.List.Dedup

/-!
# C14 — genotyping is deterministic, isolated and leaves the database untouched

Three ways in which one call could differ from the next are closed.  Hash order: the lists the
minor model is built from are sorted before use, and the order of constraints does not matter
(Props/C13).  Shared state: every operation of the state machine of `Model/World.lean` leaves
catalogue and evidence as they were, which an in-place accessor would not.  Siblings: the evidence
filter of a candidate group reads the structure of that group.  That the code sorts, copies and
filters so is in each case a regenerated flag.
-/

namespace Aldy

/-- the accessor works on a copy (regenerated from `SolvedAllele.mutations`) -/
theorem accessor_copies : Const.MUTATIONS_ACCESSOR_COPIES = true := by decide

/-- the minor-stage evidence filter uses the structure of the candidate group it filters for,
not a variable left over from an earlier loop (regenerated from `estimate_minor`) -/
theorem minor_filter_uses_own_structure : Const.MINOR_FILTER_PER_STRUCTURE = true := by decide

/-- the considered variants are sorted before the tie-breaking coefficients are handed out
(regenerated from `solve_minor_model`) -/
theorem tiebreak_order_is_canonical : Const.MINOR_MUTATIONS_SORTED = true := by decide

/-- **constructionOrder_perm** whatever order the caller's collection of considered variants
is iterated in (a Python `set`: the order depends on the interpreter's hash seed), the order in
which the minor model is constructed is the same -/
theorem constructionOrder_perm (l₁ l₂ : List Mut) (h : l₁.Perm l₂) (hs : Const.MINOR_MUTATIONS_SORTED = true) :
    constructionOrder l₁ = constructionOrder l₂ := by
  -- `hs` is `tiebreak_order_is_canonical`, taken as a hypothesis: were the sort removed from
  -- `solve_minor_model` (flag regenerated `false`), that theorem and the example below fail, not this proof
  rw [constructionOrder_eq l₁ hs, constructionOrder_eq l₂ hs]
  exact sortStable_eq_of_perm Mut.lt_refines Mut.le_antisymm h

theorem minor_build_independent_of_iteration_order (I : MinorInst) (l₁ l₂ : List Mut) (h : l₁.Perm l₂)
    (hs : Const.MINOR_MUTATIONS_SORTED = true) :
    ({ I with mutations := constructionOrder l₁ } : MinorInst).build = ({ I with mutations := constructionOrder l₂ } : MinorInst).build := by
  rw [constructionOrder_perm l₁ l₂ h hs]

/-- non-vacuity: two iteration orders of one set, one construction order -/
example : constructionOrder [⟨5, "A>C"⟩, ⟨3, "insT"⟩, ⟨5, "A>B"⟩] =
    constructionOrder [⟨5, "A>B"⟩, ⟨5, "A>C"⟩, ⟨3, "insT"⟩] := by
  decide

/-- the pooled candidate alleles are de-duplicated and sorted before they reach the model
(regenerated from `estimate_minor`) -/
theorem candidates_are_sorted : Const.MINOR_CANDIDATES_SORTED = true := by decide

/-- what `estimate_minor` hands to the model: the pooled candidates without repetitions, in the
order of their keys -/
def canonCands {α : Type} [LinearOrder α] (pool : List α) : List α := (pool.dedup).insertionSort (· ≤ ·)

/-- **candidate_order_canonical** the candidates pooled from the major solutions reach the model in
one and the same order whatever order the major solutions are given in: with
`minor_build_independent_of_iteration_order` no list the minor model is built from depends on the
order of the candidates.  (The key order of the implementation - natural order of the (major,
minor) names - is a linear order on distinct candidates: checked by the candidate-order runs of the
harness.) -/
theorem candidate_order_canonical {α : Type} [LinearOrder α] (p₁ p₂ : List α) (h : p₁.Perm p₂) :
    canonCands p₁ = canonCands p₂ := by
  unfold canonCands
  exact List.Perm.eq_of_pairwise' (r := (· ≤ ·)) (List.pairwise_insertionSort _ _) (List.pairwise_insertionSort _ _)
    ((List.perm_insertionSort _ _).trans (h.dedup.trans (List.perm_insertionSort _ _).symm))

example : canonCands [21, 12, 21, 11] = canonCands [11, 21, 12] := by decide

/-- **readonly_ops_preserve_world (one step)** no modelled query, accessor, filter or stage
changes the catalogue or the evidence. -/
theorem step_preserves_world (w : World) (o : Op) : (step w o).1 = w := by
  cases o <;> simp [step, accessor_copies]

/-- **readonly_ops_preserve_world** after any history of operations the catalogue and the
evidence equal the initial ones. -/
theorem run_preserves_world (w : World) (ops : List Op) : run w ops = w :=
  List.foldlRecOn (motive := (· = w)) ops _ rfl fun w' h o _ => (step_preserves_world w' o).trans h

theorem answers_history_independent (w : World) (ops : List Op) (o : Op) :
    (step (run w ops) o).2 = (step w o).2 := by
  rw [run_preserves_world]

/-- **mutations_accessor_counterexample** the in-place variant of the accessor does change the
catalogue: asking a solved `*1` allele with one added variant for its mutations makes that variant
a core variant of `*1`. -/
theorem accessor_inplace_changes_catalogue :
    let g : GeneView := { name := "G", regionNames := [], nGenes := 1, uniqueRegions := [], regionAt := [], mutations := [],
                          alleles := [⟨"1", "1", [], [⟨"1.001", [], none⟩]⟩], cnConfigs := [] }
    (accessorInPlace g "1" "1.001" [⟨5, "A>G"⟩] []).alleles.map (·.func) ≠ g.alleles.map (·.func) := by
  decide +kernel

/-- **filter_depends_only_on_own_structure** the evidence handed to the refinement of a candidate
group is a function of the raw evidence, the considered-variant set and the group's *own*
structure, whatever other candidates are refined alongside and in whatever order. -/
theorem filter_depends_only_on_own_structure (g : GeneView) (p : ProfileV) (c : Cov) (considered : List Mut)
    (own : CNSol) (others others' : List CNSol) :
    (fun (_ : List CNSol) => minorFilteredCov g p own considered c) others =
    (fun (_ : List CNSol) => minorFilteredCov g p own considered c) others' := rfl

/-- **stage_perm_invariant (algebra)** what "a different hash seed" can change is the order in
which sets and dictionaries are enumerated, i.e. the order of constraints and of terms; neither
changes feasibility or objective (`sat_of_same_constraints`, `objective_of_perm` of Props/C13,
`evalTerms_perm`). -/
theorem sat_constraint_perm {V : Type} (m : Ilp V) (cons' : List (LinCon V)) (h : m.cons.Perm cons') (σ : V → Rat) :
    m.Sat σ ↔ ({ m with cons := cons' } : Ilp V).Sat σ :=
  sat_of_same_constraints m { m with cons := cons' } (fun _ => Iff.rfl) (fun _ => h.mem_iff) σ

-- non-vacuity: the copying accessor answers with the added variant and without the missing one
example : (step ⟨{ name := "G", regionNames := [], nGenes := 1, uniqueRegions := [], regionAt := [], mutations := [],
                   alleles := [⟨"1", "1", [⟨3, "C>T"⟩], [⟨"1.001", [⟨9, "G>A"⟩], none⟩]⟩], cnConfigs := [] }, ⟨[], []⟩⟩
               (.mutationsAccessor "1" "1.001" [⟨5, "A>G"⟩] [⟨3, "C>T"⟩])).2 matches .muts [⟨9, "G>A"⟩, ⟨5, "A>G"⟩] := by
  decide +kernel

end Aldy
