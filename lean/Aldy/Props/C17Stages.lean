import Aldy.Props.C17
import Aldy.Props.C06Table
import Aldy.Model.Filters

/-!
# C17, continued — the stages cannot tell a replayed sample from the original

The dump stores, per site and observed allele, a counter of `(mapping quality, base quality)`
pairs; loading expands it again, which reorders the observations of a site (`dump_roundtrip`).
Every query of `Coverage` the stages use gives the same answer on two tables that differ only by
such reorderings (`CovEquiv.*`), and `filtered` takes equivalent tables to equivalent tables, so
the linear models built from the filtered evidence are *equal*.
-/

namespace Aldy

def OpsEquiv (a b : List (String × List Obs)) : Prop :=
  List.Forall₂ (fun x y => x.1 = y.1 ∧ x.2.Perm y.2) a b

def TableEquiv (a b : List (Int × List (String × List Obs))) : Prop :=
  List.Forall₂ (fun x y => x.1 = y.1 ∧ OpsEquiv x.2 y.2) a b

structure CovEquiv (a b : Cov) : Prop where
  table : TableEquiv a.table b.table
  indels : a.indels = b.indels

theorem OpsEquiv.refl (a : OpsT) : OpsEquiv a a :=
  List.forall₂_same.mpr fun _ _ => ⟨rfl, List.Perm.refl _⟩

theorem TableEquiv.refl (a : List (Int × List (String × List Obs))) : TableEquiv a a :=
  List.forall₂_same.mpr fun _ _ => ⟨rfl, OpsEquiv.refl _⟩

theorem TableEquiv.map {t t' : TableT} (h : TableEquiv t t') (f g : Int → OpsT → OpsT)
    (hfg : ∀ pos x y, OpsEquiv x y → OpsEquiv (f pos x) (g pos y)) :
    TableEquiv (t.map fun e => (e.1, f e.1 e.2)) (t'.map fun e => (e.1, g e.1 e.2)) := by
  unfold TableEquiv
  rw [List.forall₂_map_left_iff, List.forall₂_map_right_iff]
  exact h.imp fun x _ hxy => ⟨hxy.1, hxy.1 ▸ hfg x.1 _ _ hxy.2⟩

/-- what `_load_dump` makes of what `_dump_alignments` wrote, for a whole table -/
def replayTable (t : List (Int × List (String × List Obs))) : List (Int × List (String × List Obs)) :=
  t.map fun e => (e.1, e.2.map fun oq => (oq.1, expandObs (compressObs oq.2)))

theorem forall2_map_left_self {α β : Type} {R : β → α → Prop} (f : α → β) {l : List α}
    (h : ∀ x ∈ l, R (f x) x) : List.Forall₂ R (l.map f) l :=
  List.forall₂_map_left_iff.mpr (List.forall₂_same.mpr h)

theorem replayTable_equiv (t : TableT) : TableEquiv (replayTable t) t :=
  forall2_map_left_self _ fun _ _ => ⟨rfl, forall2_map_left_self _ fun o _ => ⟨rfl, dump_roundtrip o.2⟩⟩

theorem CovEquiv.ops {a b : Cov} (h : CovEquiv a b) (p : Int) : OpsEquiv (a.ops p) (b.ops p) :=
  lookup_getD_rel OpsEquiv [] .nil h.table p

theorem CovEquiv.quals {a b : Cov} (h : CovEquiv a b) (m : Mut) : (a.quals m).Perm (b.quals m) :=
  lookup_getD_rel (fun x y : List Obs => x.Perm y) [] (List.Perm.refl _) (h.ops m.pos) m.op

theorem CovEquiv.indelEq {a b : Cov} (h : CovEquiv a b) (m : Mut) : a.indel? m = b.indel? m := by
  unfold Cov.indel?; rw [h.indels]

theorem CovEquiv.coverage {a b : Cov} (h : CovEquiv a b) (m : Mut) : a.coverage m = b.coverage m := by
  unfold Cov.coverage
  rw [h.indelEq m, (h.quals m).length_eq]

theorem OpsEquiv.depth {x y : OpsT} (h : OpsEquiv x y) : opsDepth x = opsDepth y := by
  unfold opsDepth
  induction h with
  | nil => rfl
  | cons hxy _ ih => rw [List.map_cons, List.map_cons, List.sum_cons, List.sum_cons, ih, hxy.1, hxy.2.length_eq]

theorem CovEquiv.totalPos {a b : Cov} (h : CovEquiv a b) (p : Int) : a.totalPos p = b.totalPos p := by
  rw [totalPos_eq, totalPos_eq, (h.ops p).depth]

theorem CovEquiv.total {a b : Cov} (h : CovEquiv a b) (m : Mut) : a.total m = b.total m := by
  unfold Cov.total
  rw [h.indelEq m, h.totalPos m.pos]

theorem CovEquiv.percentage {a b : Cov} (h : CovEquiv a b) (m : Mut) : a.percentage m = b.percentage m := by
  unfold Cov.percentage
  rw [h.total m, h.coverage m]

theorem CovEquiv.singleCopy {a b : Cov} (h : CovEquiv a b) (g : GeneView) (s : CNSol) (m : Mut) :
    a.singleCopy g s m = b.singleCopy g s m := by
  unfold Cov.singleCopy
  rw [h.total m]

theorem CovEquiv.singleCopyPos {a b : Cov} (h : CovEquiv a b) (g : GeneView) (s : CNSol) (p : Int) :
    a.singleCopyPos g s p = b.singleCopyPos g s p := by
  unfold Cov.singleCopyPos
  rw [h.totalPos p]

theorem tableEquiv_keys {a b : TableT} (h : TableEquiv a b) : a.map (·.1) = b.map (·.1) := by
  induction h with
  | nil => rfl
  | cons hxy _ ih => rw [List.map_cons, List.map_cons, hxy.1, ih]

theorem CovEquiv.averageCoverage {a b : Cov} (h : CovEquiv a b) : a.averageCoverage = b.averageCoverage := by
  unfold Cov.averageCoverage
  have hm : ∀ c : Cov, (c.table.map fun (pos, _) => c.totalPos pos) = (c.table.map (·.1)).map c.totalPos :=
    fun c => by rw [List.map_map]; rfl
  rw [hm, hm, tableEquiv_keys h.table, funext h.totalPos, List.Forall₂.length_eq h.table]

theorem CovEquiv.basicFilter {a b : Cov} (h : CovEquiv a b) (p : ProfileV) (m : Mut) (cn thres : Option Rat) :
    a.basicFilter p m cn thres = b.basicFilter p m cn thres := by
  unfold Cov.basicFilter
  rw [h.coverage m, h.total m]

theorem CovEquiv.qualityFilter {a b : Cov} (h : CovEquiv a b) (p : ProfileV) (m : Mut) :
    (a.qualityFilter p m).Perm (b.qualityFilter p m) :=
  (h.quals m).filter _

def FilterResEquiv : Cov.FilterRes → Cov.FilterRes → Prop
  | .quals l, .quals l' => l.Perm l'
  | .keep x, .keep y => x = y
  | _, _ => False

theorem FilterResEquiv.refl : ∀ r : Cov.FilterRes, FilterResEquiv r r
  | .quals l => List.Perm.refl l
  | .keep _ => rfl

def keepEntry (res : Cov.FilterRes) (e : String × List Obs) : Option (String × List Obs) :=
  match res with
  | .quals l => if l.isEmpty then none else some (e.1, l)
  | .keep true => some e
  | .keep false => none

theorem filtered_table (c : Cov) (f : Cov → Mut → Cov.FilterRes) :
    (c.filtered f).table = c.table.map fun e => (e.1, e.2.filterMap fun x => keepEntry (f c ⟨e.1, x.1⟩) x) := rfl

theorem keepEntry_equiv {r r' : Cov.FilterRes} (h : FilterResEquiv r r') {x y : String × List Obs}
    (hxy : x.1 = y.1 ∧ x.2.Perm y.2) :
    Option.Rel (fun u v : String × List Obs => u.1 = v.1 ∧ u.2.Perm v.2) (keepEntry r x) (keepEntry r' y) := by
  cases r <;> cases r' <;> try exact h.elim
  · next l l' =>
    unfold keepEntry
    dsimp only
    rw [(h : l.Perm l').isEmpty_eq]
    split
    · exact .none
    · exact .some ⟨hxy.1, h⟩
  · next k k' =>
    obtain rfl : k = k' := h
    cases k
    · exact .none
    · exact .some hxy

theorem CovEquiv.filtered {a b : Cov} (h : CovEquiv a b) (f : Cov → Mut → Cov.FilterRes)
    (hf : ∀ m, FilterResEquiv (f a m) (f b m)) : CovEquiv (a.filtered f) (b.filtered f) := by
  constructor
  · rw [filtered_table, filtered_table]
    refine h.table.map (fun pos ops => ops.filterMap fun x => keepEntry (f a ⟨pos, x.1⟩) x)
      (fun pos ops => ops.filterMap fun x => keepEntry (f b ⟨pos, x.1⟩) x) fun pos x y hxy => ?_
    refine List.rel_filterMap (fun u v huv => ?_) hxy
    rw [← huv.1]
    exact keepEntry_equiv (hf ⟨pos, u.1⟩) huv
  · unfold Cov.filtered
    show a.indels.filter _ = b.indels.filter _
    rw [h.indels]
    refine List.filter_congr fun ⟨m, _⟩ _ => ?_
    have := hf m
    cases hfa : f a m <;> cases hfb : f b m <;> simp only [hfa, hfb, FilterResEquiv] at this
    · simp only [hfa, hfb]
    · subst this; simp only [hfa, hfb]

theorem CovEquiv.qfiltered {a b : Cov} (h : CovEquiv a b) (p : ProfileV) :
    CovEquiv (a.qfiltered p) (b.qfiltered p) :=
  h.filtered _ fun m => h.qualityFilter p m

theorem CovEquiv.majorFiltered {a b : Cov} (h : CovEquiv a b) (g : GeneView) (p : ProfileV) (s : CNSol) :
    CovEquiv (majorFilteredCov g p s a) (majorFilteredCov g p s b) := by
  unfold majorFilteredCov
  have hq := h.qfiltered p
  refine hq.filtered _ fun m => ?_
  unfold majorFilterFn
  simp only [hq.basicFilter]
  exact FilterResEquiv.refl _

theorem CovEquiv.minorFiltered {a b : Cov} (h : CovEquiv a b) (g : GeneView) (p : ProfileV) (s : CNSol)
    (considered : List Mut) :
    CovEquiv (minorFilteredCov g p s considered a) (minorFilteredCov g p s considered b) := by
  unfold minorFilteredCov
  have hq := h.qfiltered p
  refine hq.filtered _ fun m => ?_
  unfold minorFilterFn
  simp only [hq.basicFilter]
  exact FilterResEquiv.refl _

theorem make_equiv {t t' : TableT} (h : TableEquiv t t') (ind : List (Mut × (Rat × Rat))) :
    CovEquiv (Cov.make t ind) (Cov.make t' ind) := by
  -- `Cov.make` filters the entries of a site by a test on their key
  refine ⟨h.map _ _ fun _ _ _ hxy => List.rel_filter (fun u v huv => ?_) hxy, rfl⟩
  dsimp only
  rw [huv.1]

/-- **filterAlleles_congr** the candidate filter of the major stage selects the same alleles. -/
theorem filterAlleles_congr {a b : Cov} (h : CovEquiv a b) (g : GeneView) (p : ProfileV) (s : CNSol) :
    (filterAlleles g p s a).1 = (filterAlleles g p s b).1 ∧
    CovEquiv (filterAlleles g p s a).2 (filterAlleles g p s b).2 := by
  have hm := h.majorFiltered g p s
  refine ⟨?_, hm⟩
  unfold filterAlleles
  simp only [hm.coverage]

theorem major_build_reads (I : MajorInst) {a b : Cov} (hc : a.coverage = b.coverage) (hs : a.singleCopy = b.singleCopy)
    (hp : a.singleCopyPos = b.singleCopyPos) :
    ({ I with cov := a } : MajorInst).build = ({ I with cov := b } : MajorInst).build := by
  -- everything `build` reaches is unfolded until `cov` occurs only under the three queries; a new family of
  -- constraints has to be added to this list
  simp only [MajorInst.build, MajorInst.consCORD, MajorInst.consCONE, MajorInst.consCFUNC, MajorInst.consCSAT,
    MajorInst.consXOR, MajorInst.consABS, MajorInst.consNOVEL, MajorInst.errRows, MajorInst.funcMuts,
    MajorInst.slots, MajorInst.copies, MajorInst.observed, MajorInst.positions, MajorInst.carriers,
    MajorInst.refCarriers, hc, hs, hp]

/-- **major_build_congr** `solve_major_model` builds the same linear model from
equivalent evidence. -/
theorem major_build_congr (I : MajorInst) {a b : Cov} (h : CovEquiv a b) :
    ({ I with cov := a } : MajorInst).build = ({ I with cov := b } : MajorInst).build :=
  major_build_reads I (funext h.coverage) (funext fun g => funext fun s => funext (h.singleCopy g s))
    (funext fun g => funext fun s => funext (h.singleCopyPos g s))

theorem minor_build_reads (I : MinorInst) {a b : Cov} (hc : a.coverage = b.coverage) (hs : a.singleCopy = b.singleCopy) :
    ({ I with cov := a } : MinorInst).build = ({ I with cov := b } : MinorInst).build := by
  simp only [MinorInst.build, MinorInst.consCCOV, MinorInst.observed, MinorInst.consRULE5, MinorInst.consRULE6,
    MinorInst.rule6Rhs, hc, hs]
  -- what is left folded (`slots`, `consCORD`, ..) does not read `cov`: both sides unfold to the same term
  rfl

/-- **minor_build_congr** `solve_minor_model` builds the same linear model from equivalent
evidence (the phase patterns are covered by `phase_modes_equal`). -/
theorem minor_build_congr (I : MinorInst) {a b : Cov} (h : CovEquiv a b) :
    ({ I with cov := a } : MinorInst).build = ({ I with cov := b } : MinorInst).build :=
  minor_build_reads I (funext h.coverage) (funext fun g => funext fun s => funext (h.singleCopy g s))

/-- **replay_depths_equal** the depth of every site, hence every region sum the copy-number stage
normalises, and the average depth the no-data guard reads are the same for the replayed sample. -/
theorem replay_depths_equal (t : List (Int × List (String × List Obs))) (ind : List (Mut × (Rat × Rat))) :
    (∀ pos, (Cov.make (replayTable t) ind).totalPos pos = (Cov.make t ind).totalPos pos) ∧
    (Cov.make (replayTable t) ind).averageCoverage = (Cov.make t ind).averageCoverage :=
  let h := make_equiv (replayTable_equiv t) ind
  ⟨h.totalPos, h.averageCoverage⟩

/-- **replay_major_stage_equal** the major stage sees the same candidates and builds the same
model for the replayed sample, for every gene, profile and structure. -/
theorem replay_major_stage_equal (g : GeneView) (p : ProfileV) (s : CNSol)
    (t : List (Int × List (String × List Obs))) (ind : List (Mut × (Rat × Rat))) (novel gap : Rat) :
    let orig := filterAlleles g p s (Cov.make t ind)
    let rep := filterAlleles g p s (Cov.make (replayTable t) ind)
    rep.1 = orig.1 ∧
    (⟨g, rep.2, s, rep.1, novel, gap⟩ : MajorInst).build = (⟨g, orig.2, s, orig.1, novel, gap⟩ : MajorInst).build := by
  intro orig rep
  have h := filterAlleles_congr (make_equiv (replayTable_equiv t) ind) g p s
  refine ⟨h.1, ?_⟩
  show (⟨g, rep.2, s, rep.1, novel, gap⟩ : MajorInst).build = _
  rw [show rep.1 = orig.1 from h.1]
  exact major_build_congr ⟨g, orig.2, s, orig.1, novel, gap⟩ h.2

/-- **replay_minor_stage_equal** the refinement model built from the replayed evidence is the
model built from the original evidence, for every candidate list and considered-variant set;
with `phase_modes_equal` (the phase patterns) nothing the minor stage reads differs. -/
theorem replay_minor_stage_equal (I : MinorInst) (p : ProfileV) (considered : List Mut)
    (t : List (Int × List (String × List Obs))) (ind : List (Mut × (Rat × Rat))) :
    ({ I with cov := minorFilteredCov I.gene p I.cn considered (Cov.make (replayTable t) ind) } : MinorInst).build =
    ({ I with cov := minorFilteredCov I.gene p I.cn considered (Cov.make t ind) } : MinorInst).build :=
  minor_build_congr I ((make_equiv (replayTable_equiv t) ind).minorFiltered I.gene p I.cn considered)

/-! ### Non-vacuity: a table the dump really reorders -/
example : replayTable [(5, [("_", [(60, 40), (60, 25), (60, 40)]), ("A>G", [(10, 40)])])]
    = [(5, [("_", [(60, 40), (60, 40), (60, 25)]), ("A>G", [(10, 40)])])] := by decide +kernel
example : replayTable [(5, [("_", [(60, 40), (60, 25), (60, 40)])])] ≠ [(5, [("_", [(60, 40), (60, 25), (60, 40)])])] := by
  decide +kernel

end Aldy
