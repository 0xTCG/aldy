import Aldy.Model.Pileup
import Mathlib.Logic.Basic

/-!
# C06 — alignment evidence is a faithful pileup of the eligible reads

`walk` / `parseRead` model `_parse_read`; `makeTable` (`_make_coverage`) follows in `C06Table.lean`.
The specification is `showsAt`.  The walk of a read is compared with it once, for every counting
predicate (`walk_countP`): the depth and the support of one operation are instances of `countP`.

The theorems hold for any list of reads; which reads `_load_sam` passes on (`eligible`) is compared
with the code by the correspondence run (`Driver/C06.lean`).
-/

namespace Aldy

def depthAt (evs : List Ev) (p : Int) : Nat := (evs.filter fun e => e.pos == p && !opIsIns e.op).length

def countOp (evs : List Ev) (p : Int) (o : String) : Nat := (evs.filter fun e => e.pos == p && e.op == o).length

def countP (Q : String → Bool) (evs : List Ev) (p : Int) : Nat := (evs.filter fun e => e.pos == p && Q e.op).length

theorem depthAt_eq_countP (evs : List Ev) (p : Int) : depthAt evs p = countP (fun o => !opIsIns o) evs p := rfl

theorem countOp_eq_countP (evs : List Ev) (p : Int) (o : String) : countOp evs p o = countP (· == o) evs p := rfl

theorem countP_append (Q : String → Bool) (a b : List Ev) (p : Int) : countP Q (a ++ b) p = countP Q a p + countP Q b p := by
  simp only [countP, List.filter_append, List.length_append]

theorem countP_singleton (Q : String → Bool) (e : Ev) (p : Int) :
    countP Q [e] p = if e.pos = p ∧ Q e.op = true then 1 else 0 := by
  simp only [countP, List.filter_cons, List.filter_nil, Bool.and_eq_true, beq_iff_eq]
  split <;> rfl

theorem depthAt_append (a b : List Ev) (p : Int) : depthAt (a ++ b) p = depthAt a p + depthAt b p :=
  countP_append (fun o => !opIsIns o) a b p

theorem depthAt_nil (p : Int) : depthAt [] p = 0 := rfl

theorem countP_run (Q : String → Bool) (start : Int) (n : Nat) (ev : Nat → Ev) (f : Int → String)
    (hev : ∀ i, (ev i).pos = start + (i : Int) ∧ (ev i).op = f (start + (i : Int))) (p : Int) :
    countP Q ((List.range n).map ev) p = if start ≤ p ∧ p < start + (n : Int) ∧ Q (f p) = true then 1 else 0 := by
  induction n with
  | zero => rw [if_neg (by omega)]; rfl
  | succ k ih =>
    rw [List.range_succ, List.map_append, countP_append, ih, List.map_singleton, countP_singleton, (hev k).1, (hev k).2]
    simp only [Int.natCast_succ, ← Int.add_assoc, Int.lt_add_one_iff]
    by_cases hp : start + (k : Int) = p
    · subst hp
      have hk : start ≤ start + (k : Int) := Int.le_add_of_nonneg_right (Int.natCast_nonneg k)
      rw [if_neg (fun h => Int.lt_irrefl _ h.2.1), Nat.zero_add]
      exact if_congr ⟨fun h => ⟨hk, Int.le_refl _, h.2⟩, fun h => ⟨rfl, h.2.2⟩⟩ rfl rfl
    · have hlt : p < start + (k : Int) ↔ p ≤ start + (k : Int) :=
        ⟨Int.le_of_lt, fun h => Int.lt_iff_le_and_ne.mpr ⟨h, Ne.symm hp⟩⟩
      rw [if_neg (fun h : _ ∧ Q (f (start + k)) = true => hp h.1), Nat.add_zero]
      exact if_congr (and_congr_right fun _ => and_congr_left fun _ => hlt) rfl rfl

theorem countP_flatMap_one {ρ : Type} (Q : String → Bool) (f : ρ → List Ev) (p : Int) (P : ρ → Prop) [DecidablePred P]
    (h : ∀ r, countP Q (f r) p = if P r then 1 else 0) (rs : List ρ) :
    countP Q (rs.flatMap f) p = (rs.filter fun r => decide (P r)).length := by
  induction rs with
  | nil => rfl
  | cons r rs ih =>
    rw [List.flatMap_cons, countP_append, ih, h, List.filter_cons]
    by_cases hr : P r
    · rw [if_pos hr, if_pos (decide_eq_true hr), List.length_cons, Nat.add_comm]
    · rw [if_neg hr, if_neg (by simpa using hr), Nat.zero_add]

theorem opIsIns_sub (a b : Char) : opIsIns (strOf [a, '>', b]) = false := by
  simp [opIsIns, strOf]

theorem opIsIns_ref : opIsIns "_" = false := by decide

theorem opIsIns_del : opIsIns "-" = false := by decide

theorem opIsIns_ins (cs : List Char) : opIsIns ("ins" ++ strOf cs) = true := by
  simp [opIsIns, strOf, String.toList_append]

def calledOp (l : LocusV) (r : ReadV) (start : Int) (sStart : Nat) (p : Int) : String :=
  let b := r.seq.getD (sStart + (p - start).toNat) 'N'
  if l.inGene p && l.base p != b then strOf [l.base p, '>', b] else "_"

theorem calledOp_run (l : LocusV) (r : ReadV) (start : Int) (sStart i : Nat) :
    calledOp l r start sStart (start + (i : Int)) =
      if l.inGene (start + i) && l.base (start + i) != r.seq.getD (sStart + i) 'N'
      then strOf [l.base (start + i), '>', r.seq.getD (sStart + i) 'N'] else "_" := by
  have h : (start + (i : Int) - start).toNat = i := by rw [Int.add_comm, Int.add_sub_cancel, Int.toNat_natCast]
  simp only [calledOp, h]

theorem opIsIns_calledOp (l : LocusV) (r : ReadV) (start : Int) (sStart : Nat) (p : Int) :
    opIsIns (calledOp l r start sStart p) = false := by
  unfold calledOp
  dsimp only
  split
  · exact opIsIns_sub _ _
  · exact opIsIns_ref

def shownOp (l : LocusV) (r : ReadV) (op : Nat) (start : Int) (sStart : Nat) (p : Int) : String :=
  if op == 2 then "-" else calledOp l r start sStart p

theorem opIsIns_shownOp (l : LocusV) (r : ReadV) (op : Nat) (start : Int) (sStart : Nat) (p : Int) :
    opIsIns (shownOp l r op start sStart p) = false := by
  unfold shownOp
  split
  · exact opIsIns_del
  · exact opIsIns_calledOp ..

/-- what the alignment shows at reference position `p` (non-insertion view): the deleted-base
marker inside a deletion, the called base inside a match run, nothing outside the alignment -/
def showsAt (l : LocusV) (r : ReadV) : List (Nat × Nat) → Int → Nat → Int → Option String
  | [], _, _, _ => none
  | (op, size) :: cs, start, sStart, p =>
    if op == 2 then (if start ≤ p ∧ p < start + size then some "-" else showsAt l r cs (start + size) sStart p)
    else if op == 1 then showsAt l r cs start (sStart + size) p
    else if op == 4 then showsAt l r cs start (sStart + size) p
    else if Const.PARSE_MATCH_OPS.contains op then
      (if start ≤ p ∧ p < start + size then some (calledOp l r start sStart p) else showsAt l r cs (start + size) (sStart + size) p)
    else showsAt l r cs start sStart p

def consumesSeq (op size : Nat) : Nat :=
  if op == 1 || op == 4 || Const.PARSE_MATCH_OPS.contains op then size else 0

theorem op_cases {motive : Nat → Prop} (op : Nat) (del : motive 2) (ins : motive 1) (clip : motive 4)
    (mtch : ∀ op, (op == 2) = false → (op == 1) = false → (op == 4) = false →
      Const.PARSE_MATCH_OPS.contains op = true → motive op)
    (other : ∀ op, (op == 2) = false → (op == 1) = false → (op == 4) = false →
      Const.PARSE_MATCH_OPS.contains op = false → motive op) : motive op := by
  by_cases h2 : op = 2
  · exact h2 ▸ del
  by_cases h1 : op = 1
  · exact h1 ▸ ins
  by_cases h4 : op = 4
  · exact h4 ▸ clip
  cases hm : Const.PARSE_MATCH_OPS.contains op
  · exact other op (beq_false_of_ne h2) (beq_false_of_ne h1) (beq_false_of_ne h4) hm
  · exact mtch op (beq_false_of_ne h2) (beq_false_of_ne h1) (beq_false_of_ne h4) hm

/-- exchanging `M`, `=` and `X` for each other does not change what a run consumes -/
theorem consumes_match_ops (size : Nat) : consumes 0 size = size ∧ consumes 7 size = size ∧ consumes 8 size = size ∧
    consumes 1 size = 0 ∧ consumes 4 size = 0 ∧ consumes 2 size = size := by
  -- by evaluation of the regenerated list `PARSE_MATCH_OPS` (`[0, 7, 8]`): if the list changes, this is what breaks
  refine ⟨?_, ?_, ?_, ?_, ?_, ?_⟩ <;> rfl

/-- the five cases of `showsAt` as one, in the terms of `walkOp_eq` and `countP_opEvs` -/
theorem showsAt_cons (l : LocusV) (r : ReadV) (op size : Nat) (cs : List (Nat × Nat)) (st : Int) (ss : Nat) (p : Int) :
    showsAt l r ((op, size) :: cs) st ss p =
      if st ≤ p ∧ p < st + (consumes op size : Int) then some (shownOp l r op st ss p)
      else showsAt l r cs (st + consumes op size) (ss + consumesSeq op size) p := by
  obtain ⟨-, -, -, hins, hclip, -⟩ := consumes_match_ops size
  induction op using op_cases with
  | del => rfl
  | ins =>
    rw [if_neg (by rw [hins]; omega)]
    exact congrArg (showsAt l r cs · _ p) (Int.add_zero _).symm
  | clip =>
    rw [if_neg (by rw [hclip]; omega)]
    exact congrArg (showsAt l r cs · _ p) (Int.add_zero _).symm
  | mtch op h2 h1 h4 hm =>
    simp only [showsAt, consumes, consumesSeq, shownOp, h2, h1, h4, hm, Bool.false_eq_true, if_false, if_true,
      Bool.or_true]
  | other op h2 h1 h4 hm =>
    simp only [showsAt, consumes, consumesSeq, h2, h1, h4, hm, Bool.false_eq_true, if_false, Bool.or_false]
    rw [if_neg (by omega)]; exact congrArg (showsAt l r cs · _ p) (Int.add_zero _).symm

theorem showsAt_before (l : LocusV) (r : ReadV) (cs : List (Nat × Nat)) (st : Int) (ss : Nat) (p : Int) (h : p < st) :
    showsAt l r cs st ss p = none := by
  induction cs generalizing st ss with
  | nil => rfl
  | cons c cs ih => rw [showsAt_cons, if_neg (by omega)]; exact ih _ _ (by omega)

theorem refLen_cons (c : Nat × Nat) (cs : List (Nat × Nat)) : refLen (c :: cs) = consumes c.1 c.2 + refLen cs := rfl

theorem showsAt_any_not_ins (l : LocusV) (r : ReadV) (cs : List (Nat × Nat)) (st : Int) (ss : Nat) (p : Int) :
    (showsAt l r cs st ss p).any (fun o => !opIsIns o) = decide (st ≤ p ∧ p < st + refLen cs) := by
  induction cs generalizing st ss with
  | nil => exact (decide_eq_false (by rw [show refLen [] = 0 from rfl]; omega)).symm
  | cons c cs ih =>
    rw [showsAt_cons, refLen_cons]
    by_cases hin : st ≤ p ∧ p < st + (consumes c.1 c.2 : Int)
    · rw [if_pos hin, Option.any_some, opIsIns_shownOp]
      exact (decide_eq_true (by omega)).symm
    · rw [if_neg hin, ih]
      exact decide_eq_decide.mpr (by omega)

/-- without qualities every base takes `prevQ`, with them `prevQ` is not read -/
theorem qualAt_qualAt (r : ReadV) (i j : Nat) (q : Rat) : qualAt r j (qualAt r i q) = qualAt r j q := by
  unfold qualAt; cases r.qual <;> rfl

def matchEv (l : LocusV) (r : ReadV) (s : WalkState) (i : Nat) : Ev :=
  ⟨s.start + i, calledOp l r s.start s.sStart (s.start + i),
    (binQuality r.mq, binQuality (qualAt r (s.sStart + i) s.prevQ))⟩

theorem foldl_range_induction {σ : Type} (P : Nat → σ → Prop) (f : σ → Nat → σ) (s : σ) (h0 : P 0 s)
    (hs : ∀ k st, P k st → P (k + 1) (f st k)) (n : Nat) : P n ((List.range n).foldl f s) := by
  induction n with
  | zero => exact h0
  | succ k ih => rw [List.range_succ, List.foldl_append]; exact hs k _ ih

theorem walkMatch_evs (l : LocusV) (r : ReadV) (size : Nat) (s : WalkState) :
    (walkMatch l r size s).evs = s.evs ++ (List.range size).map (matchEv l r s) := by
  unfold walkMatch
  refine (foldl_range_induction
    (fun k st => st.evs = s.evs ++ (List.range k).map (matchEv l r s) ∧ ∀ j, qualAt r j st.prevQ = qualAt r j s.prevQ)
    _ s ⟨(List.append_nil _).symm, fun _ => rfl⟩ ?_ size).1
  intro k st ⟨he, hq⟩
  rw [List.range_succ, List.map_append, ← List.append_assoc, ← he, List.map_singleton, matchEv, calledOp_run]
  dsimp only
  rw [hq (s.sStart + k)]
  -- `cases` and not `split`: the state terms are large
  cases l.inGene (s.start + k) && l.base (s.start + k) != r.seq.getD (s.sStart + k) 'N' <;>
    exact ⟨rfl, fun j => qualAt_qualAt r _ j _⟩

def opEvs (l : LocusV) (r : ReadV) (s : WalkState) (op size : Nat) : List Ev :=
  (if op == 1 then
    [⟨s.start, "ins" ++ strOf ((List.range size).map fun i => r.seq.getD (s.sStart + i) 'N'),
      (binQuality r.mq, binQuality (match r.qual with
        | some qs => ratMean ((List.range size).filterMap fun i => qs[s.sStart + i]?)
        | none => s.prevQ))⟩]
  else []) ++
  (List.range (consumes op size)).map
    (if op == 2 then fun (i : Nat) => ⟨s.start + (i : Int), "-", (binQuality r.mq, binQuality s.prevQ)⟩
     else matchEv l r s)

theorem walkOp_eq (l : LocusV) (r : ReadV) (s : WalkState) (op size : Nat) :
    (walkOp l r s op size).evs = s.evs ++ opEvs l r s op size ∧
    (walkOp l r s op size).start = s.start + consumes op size ∧
    (walkOp l r s op size).sStart = s.sStart + consumesSeq op size := by
  induction op using op_cases with
  | del => exact ⟨rfl, rfl, rfl⟩
  | ins => exact ⟨rfl, (Int.add_zero _).symm, rfl⟩
  | clip => exact ⟨(List.append_nil _).symm, (Int.add_zero _).symm, rfl⟩
  | mtch op h2 h1 h4 hm =>
    simp only [walkOp, opEvs, consumes, consumesSeq, h2, h1, h4, hm, Bool.false_eq_true, if_false, if_true, Bool.or_true,
      List.nil_append]
    exact ⟨walkMatch_evs l r size s, rfl, rfl⟩
  | other op h2 h1 h4 hm =>
    simp only [walkOp, opEvs, consumes, consumesSeq, h2, h1, h4, hm, Bool.false_eq_true, if_false, Bool.or_false]
    exact ⟨(List.append_nil _).symm, (Int.add_zero _).symm, rfl⟩

theorem opEvs_mq (l : LocusV) (r : ReadV) (s : WalkState) (op size : Nat) :
    ∀ e ∈ opEvs l r s op size, e.obs.1 = binQuality r.mq := by
  intro e he
  rcases List.mem_append.mp he with h | h
  · split at h
    · obtain rfl := List.mem_singleton.mp h; rfl
    · cases h
  · obtain ⟨i, _, rfl⟩ := List.mem_map.mp h
    split <;> rfl

theorem countP_opEvs (Q : String → Bool) (hQ : ∀ o, Q o = true → opIsIns o = false) (l : LocusV) (r : ReadV)
    (s : WalkState) (op size : Nat) (p : Int) :
    countP Q (opEvs l r s op size) p =
      if s.start ≤ p ∧ p < s.start + (consumes op size : Int) ∧ Q (shownOp l r op s.start s.sStart p) = true then 1
      else 0 := by
  rw [opEvs, countP_append, countP_run Q s.start _ _ (shownOp l r op s.start s.sStart)
    (fun i => by unfold shownOp; cases op == 2 <;> exact ⟨rfl, rfl⟩)]
  -- the observation of an insertion does not satisfy `Q`
  refine (congrArg (· + _) ?_).trans (Nat.zero_add _)
  split
  · rw [countP_singleton]
    refine if_neg fun hh => ?_
    have := hQ _ hh.2
    rw [opIsIns_ins] at this
    cases this
  · rfl

theorem walkOp_depth (l : LocusV) (r : ReadV) (s : WalkState) (op size : Nat) (p : Int) :
    depthAt (walkOp l r s op size).evs p =
      depthAt s.evs p + (if s.start ≤ p ∧ p < s.start + consumes op size then 1 else 0) := by
  rw [(walkOp_eq l r s op size).1, depthAt_append, depthAt_eq_countP (opEvs l r s op size),
    countP_opEvs _ (fun o h => by simpa using h)]
  congr 1
  exact if_congr ⟨fun h => ⟨h.1, h.2.1⟩, fun h => ⟨h.1, h.2, by rw [opIsIns_shownOp]; rfl⟩⟩ rfl rfl

/-- every observation carries the binned mapping quality of its read (CIGAR walk) -/
theorem quality_kept_walkOp (l : LocusV) (r : ReadV) (s : WalkState) (op size : Nat)
    (h : ∀ e ∈ s.evs, e.obs.1 = binQuality r.mq) : ∀ e ∈ (walkOp l r s op size).evs, e.obs.1 = binQuality r.mq := by
  intro e he
  rw [(walkOp_eq l r s op size).1] at he
  exact (List.mem_append.mp he).elim (h e) (opEvs_mq l r s op size e)

theorem walk_countP (Q : String → Bool) (hQ : ∀ o, Q o = true → opIsIns o = false) (l : LocusV) (r : ReadV) (p : Int) :
    countP Q (walk l r).evs p = if (showsAt l r r.cigar r.refStart 0 p).any Q = true then 1 else 0 := by
  have key : ∀ (cig : List (Nat × Nat)) (s : WalkState),
      countP Q (cig.foldl (fun s c => walkOp l r s c.1 c.2) s).evs p =
        countP Q s.evs p + (if (showsAt l r cig s.start s.sStart p).any Q = true then 1 else 0) := by
    intro cig
    induction cig with
    | nil => intro s; rfl
    | cons c cs ih =>
      intro s
      obtain ⟨op, size⟩ := c
      obtain ⟨hevs, hstart, hsStart⟩ := walkOp_eq l r s op size
      rw [List.foldl_cons, ih, hevs, countP_append, countP_opEvs Q hQ, hstart, hsStart, showsAt_cons, Nat.add_assoc]
      congr 1
      by_cases hin : s.start ≤ p ∧ p < s.start + (consumes op size : Int)
      · -- nothing of the rest of the CIGAR reaches back to `p`
        rw [if_pos hin, showsAt_before l r cs _ _ p hin.2, Option.any_none, Option.any_some, if_neg Bool.false_ne_true,
          Nat.add_zero]
        exact if_congr ⟨fun h => h.2.2, fun h => ⟨hin.1, hin.2, h⟩⟩ rfl rfl
      · rw [if_neg hin, if_neg (fun h => hin ⟨h.1, h.2.1⟩), Nat.zero_add]
  exact (key r.cigar _).trans (Nat.zero_add _)

/-- **shows_one_read** among the observations the CIGAR walk produces there is exactly one
non-insertion observation at `p` when the alignment spans `p` - the operation `showsAt` says
(deleted-base marker, reference marker or the substitution to the read's base) - and none otherwise -/
theorem shows_one_read (l : LocusV) (r : ReadV) (p : Int) (o : String) (ho : opIsIns o = false) :
    countOp (walk l r).evs p o = if showsAt l r r.cigar r.refStart 0 p = some o then 1 else 0 := by
  rw [countOp_eq_countP, walk_countP (· == o) (fun o' h => (eq_of_beq h : o' = o) ▸ ho)]
  refine if_congr ?_ rfl rfl
  cases showsAt l r r.cigar r.refStart 0 p <;> simp

/-- **depth_one_read (walk)** exactly one non-insertion observation at every position the alignment
spans, none elsewhere: matches, mismatches and deleted bases count once; insertions and soft clips
consume no reference. -/
theorem depth_walk (l : LocusV) (r : ReadV) (p : Int) :
    depthAt (walk l r).evs p = if r.refStart ≤ p ∧ p < r.refStart + refLen r.cigar then 1 else 0 := by
  rw [depthAt_eq_countP, walk_countP _ (fun o h => by simpa using h), showsAt_any_not_ins]
  exact if_congr decide_eq_true_iff rfl rfl

/-- **cigar_split_invariant (depth)** splitting a run `(op, a + b)` into `(op, a), (op, b)`
leaves the reference length - hence every depth - unchanged. -/
theorem refLen_split (pre post : List (Nat × Nat)) (op a b : Nat) :
    refLen (pre ++ (op, a + b) :: post) = refLen (pre ++ (op, a) :: (op, b) :: post) := by
  simp only [refLen, List.map_append, List.map_cons, List.sum_append, List.sum_cons]
  split <;> omega

/-- binning is monotone-table lookup: the generated table is increasing in bound and value -/
theorem bin_table_sorted : (Const.BIN_QUALITY_TABLE.map (·.1)).Pairwise (· < ·) := by
  decide +kernel

def siteTouches (site : Int × String) (q : Int) : Bool :=
  q == site.1 || (mnpParts site.2).any fun p => q == site.1 + (p.1 : Int)

theorem siteTouches_first (site : Int × String) : siteTouches site site.1 = true := by
  simp [siteTouches]

theorem siteTouches_part (site : Int × String) (part : Nat × String) (h : part ∈ mnpParts site.2) :
    siteTouches site (site.1 + (part.1 : Int)) = true := by
  rw [siteTouches, Bool.or_eq_true]
  exact .inr (List.any_eq_true.mpr ⟨part, h, beq_self_eq_true _⟩)

theorem filter_eraseIdx_of_not {α : Type} (P : α → Bool) (l : List α) (i : Nat)
    (h : ∀ x, l[i]? = some x → P x = false) : (l.eraseIdx i).filter P = l.filter P := by
  induction l generalizing i with
  | nil => rfl
  | cons y ys ih =>
    cases i with
    | zero => rw [List.eraseIdx_cons_zero, List.filter_cons_of_neg (by rw [h y rfl]; exact Bool.false_ne_true)]
    | succ j => rw [List.eraseIdx_cons_succ, List.filter_cons, List.filter_cons, ih j h]

theorem popLast_filter (evs : List Ev) (pos : Int) (op : String) (P : Ev → Bool)
    (hP : ∀ e : Ev, e.pos = pos → P e = false) : (popLast evs pos op).1.filter P = evs.filter P := by
  unfold popLast
  dsimp only
  split
  · next i hi =>
    rw [List.filter_reverse, filter_eraseIdx_of_not, List.filter_reverse, List.reverse_reverse]
    intro x hx
    have := List.of_findIdx?_eq_some hi
    rw [hx] at this
    exact hP x (eq_of_beq (Bool.and_eq_true_iff.mp this).1)
  · rfl

theorem filter_concat_of_not {α : Type} (P : α → Bool) (l : List α) (x : α) (h : P x = false) :
    (l ++ [x]).filter P = l.filter P := by
  rw [List.filter_append, List.filter_cons_of_neg (by rw [h]; exact Bool.false_ne_true), List.filter_nil, List.append_nil]

theorem mergeMnp_filter_away (l : LocusV) (evs : List Ev) (dump : List (Int × String)) (P : Ev → Bool)
    (hP : ∀ e : Ev, ∀ site ∈ l.multiSites, siteTouches site e.pos = true → P e = false) :
    (mergeMnp l evs dump).filter P = evs.filter P := by
  unfold mergeMnp
  refine List.foldlRecOn (motive := fun es : List Ev => es.filter P = evs.filter P) _ _ rfl
    fun es h site hs => Eq.trans ?_ h
  -- a site that is not merged leaves `es` as it is (`split` is slow on a goal of this size)
  refine (apply_ite (List.filter P) _ _ _).trans (ite_eq_right_iff.mpr fun _ => ?_)
  refine (filter_concat_of_not P _ _ (hP _ site hs (siteTouches_first site))).trans ?_
  -- the inner fold: a component pops its observation and (but for the first) puts a reference
  -- marker back, both at its own position
  refine List.foldlRecOn (motive := fun acc : List Ev × List Obs => acc.1.filter P = es.filter P) _ _ rfl
    fun acc hacc part hp => Eq.trans ?_ hacc
  have hpart : ∀ e : Ev, e.pos = site.1 + (part.1 : Int) → P e = false :=
    fun e he => hP e site hs (he ▸ siteTouches_part site part hp)
  have hpop := popLast_filter acc.1 (site.1 + (part.1 : Int)) part.2 P hpart
  generalize popLast acc.1 (site.1 + (part.1 : Int)) part.2 = res at hpop ⊢
  obtain ⟨evs', _ | o⟩ := res
  · exact hpop
  · refine Eq.trans ?_ hpop
    dsimp only
    split
    · exact filter_concat_of_not P _ _ (hpart _ rfl)
    · rfl

theorem mergeMnp_countP_away (Q : String → Bool) (l : LocusV) (evs : List Ev) (dump : List (Int × String)) (q : Int)
    (h : ∀ site ∈ l.multiSites, siteTouches site q = false) :
    countP Q (mergeMnp l evs dump) q = countP Q evs q :=
  congrArg List.length (mergeMnp_filter_away l evs dump _ fun e site hs ht => by
    cases hq : e.pos == q
    · rfl
    · rw [eq_of_beq hq, h site hs] at ht; cases ht)

/-- **mergeMnp_depth_away** merging the single-base substitutions of a multi-substitution
changes the observations only at the positions of that site -/
theorem mergeMnp_depth_away (l : LocusV) (evs : List Ev) (dump : List (Int × String)) (q : Int)
    (h : ∀ site ∈ l.multiSites, siteTouches site q = false) :
    depthAt (mergeMnp l evs dump) q = depthAt evs q :=
  mergeMnp_countP_away (fun o => !opIsIns o) l evs dump q h

/-- **depth_one_read (any locus)** at every position that is not part of a catalogued
multi-substitution site the statement of `depth_one_read` holds for every locus -/
theorem depth_one_read_general (l : LocusV) (r : ReadV) (p : Int)
    (h : ∀ site ∈ l.multiSites, siteTouches site p = false) :
    depthAt (parseRead l r).1 p = if r.refStart ≤ p ∧ p < r.refStart + refLen r.cigar then 1 else 0 :=
  (mergeMnp_depth_away l _ _ p h).trans (depth_walk l r p)

/-- **depth_total (any locus)** -/
theorem depth_total_general (l : LocusV) (reads : List ReadV) (p : Int)
    (h : ∀ site ∈ l.multiSites, siteTouches site p = false) :
    depthAt (reads.flatMap fun r => (parseRead l r).1) p =
      (reads.filter fun r => decide (r.refStart ≤ p ∧ p < r.refStart + refLen r.cigar)).length :=
  countP_flatMap_one (fun o => !opIsIns o) (fun r => (parseRead l r).1) p _ (fun r => depth_one_read_general l r p h) reads

/-- **depth_one_read** `depth_walk` for `parseRead`, on a locus without multi-substitution sites. -/
theorem depth_one_read (l : LocusV) (hm : l.multiSites = []) (r : ReadV) (p : Int) :
    depthAt (parseRead l r).1 p = if r.refStart ≤ p ∧ p < r.refStart + refLen r.cigar then 1 else 0 :=
  depth_one_read_general l r p (hm ▸ List.forall_mem_nil _)

/-- **depth_total** over any list of reads the depth at `p` is the number of reads whose
alignment spans `p` (loci without multi-substitution sites). -/
theorem depth_total (l : LocusV) (hm : l.multiSites = []) (reads : List ReadV) (p : Int) :
    depthAt (reads.flatMap fun r => (parseRead l r).1) p =
      (reads.filter fun r => decide (r.refStart ≤ p ∧ p < r.refStart + refLen r.cigar)).length :=
  depth_total_general l reads p (hm ▸ List.forall_mem_nil _)

/-- **pileup_perm (depth)** the depth does not depend on the order of the reads. -/
theorem depth_perm (l : LocusV) (reads reads' : List ReadV) (h : reads.Perm reads') (p : Int) :
    depthAt (reads.flatMap fun r => (parseRead l r).1) p = depthAt (reads'.flatMap fun r => (parseRead l r).1) p := by
  unfold depthAt
  exact ((h.flatMap_right _).filter _).length_eq

/-- **support_total_general** outside multi-substitution sites the support of a non-insertion
operation `o` at `p` is the number of reads whose alignment shows `o` at `p`: reference marker and
substitutions are counted once per read that shows them, deleted bases once per read that deletes
them - nothing else is counted -/
theorem support_total_general (l : LocusV) (reads : List ReadV) (p : Int) (o : String) (ho : opIsIns o = false)
    (h : ∀ site ∈ l.multiSites, siteTouches site p = false) :
    countOp (reads.flatMap fun r => (parseRead l r).1) p o =
      (reads.filter fun r => decide (showsAt l r r.cigar r.refStart 0 p = some o)).length :=
  countP_flatMap_one (· == o) (fun r => (parseRead l r).1) p _
    (fun r => (mergeMnp_countP_away (· == o) l _ _ p h).trans (shows_one_read l r p o ho)) reads

def exLocus : LocusV :=
  { lookupStart := 100, lookupSeq := "ACGTACGTAC".toList.toArray, mapped := [(100, 110)], phaseable := [102],
    multiSites := [], wide := (100, 110) }
def exRead : ReadV := { fragment := "r", refStart := 101, cigar := [(4, 2), (0, 3), (2, 2), (1, 1), (0, 2)],
                        seq := "TTCGAAAC".toList.toArray, mq := 60, qual := none }
example : ((parseRead exLocus exRead).1.map fun e => (e.pos, e.op)) =
    [(101, "_"), (102, "_"), (103, "T>A"), (104, "-"), (105, "-"), (106, "insA"), (106, "G>A"), (107, "T>C")] := by
  decide +kernel
example : refLen exRead.cigar = 7 := by decide

end Aldy
