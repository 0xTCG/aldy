import Aldy.Model.Catalogue
import Aldy.Lemmas.SortStable
import Aldy.Lemmas.Keyed

/-!
# C09 — the star-allele catalogue is a consistent, build-independent partition

The grouping of database alleles into major alleles (by structure and sorted core-variant
set) and the grouping of a major's minors by variant set (duplicate removal) are both the fold
`groupFold`, treated here for every key function.  The names of the groups are in `C09Names.lean`;
the rest of the catalogue logic (dict overwrites, partials, the agreement between genome builds) is
decided by the correspondence with the real loader and by the oracle on every database.
-/

namespace Aldy

variable {κ α : Type} [DecidableEq κ]

def groupStep (key : α → κ) (acc : List (κ × List α)) (x : α) : List (κ × List α) :=
  upsert acc (key x) (· ++ [x]) [x]

theorem groupFold_eq_foldl (key : α → κ) (items : List α) : groupFold key items = items.foldl (groupStep key) [] := by
  unfold groupFold
  refine congrArg (fun f => items.foldl f []) (funext fun acc => funext fun x => ?_)
  unfold groupStep upsert
  -- the model tests `e.1 = key x` where `upsert` tests `e.1 == key x`, which is `decide (e.1 = key x)`
  simp only [beq_iff_eq]
  rfl

/-- **majors_distinct_keys** two catalogued major alleles never share structure and core-variant
set; two kept minors of a major never share a variant set. -/
theorem groupFold_keys_nodup (key : α → κ) (items : List α) : ((groupFold key items).map (·.1)).Nodup := by
  rw [groupFold_eq_foldl]
  exact List.foldlRecOn (motive := fun acc : List (κ × List α) => (acc.map Prod.fst).Nodup) items _ List.nodup_nil
    fun acc h x _ => nodup_keys_upsert acc (key x) _ _ h

theorem foldl_groupStep_cons (key : α → κ) (xs : List α) (k : κ) (g : List α) (acc : List (κ × List α))
    (h : k ∉ acc.map (·.1)) :
    xs.foldl (groupStep key) ((k, g) :: acc) =
      (k, g ++ xs.filter (key · = k)) :: (xs.filter (key · ≠ k)).foldl (groupStep key) acc := by
  induction xs generalizing g acc with
  | nil => simp only [List.foldl_nil, List.filter_nil, List.append_nil]
  | cons x xs ih =>
    rw [List.foldl_cons, groupStep]
    by_cases hk : key x = k
    · rw [hk, upsert_cons_self h, ih _ acc h]
      simp [hk]
    · have h' : k ∉ (groupStep key acc x).map (·.1) := by
        rw [groupStep, keys_upsert]
        split
        · exact h
        · exact fun hin => (List.mem_append.mp hin).elim h fun h1 => hk (List.mem_singleton.mp h1).symm
      rw [upsert_cons_ne (Ne.symm hk), ← groupStep, ih g _ h']
      simp [hk]

/-- `groupFold` as a recursion on the input: all that follows is by induction along it -/
theorem groupFold_cons (key : α → κ) (x : α) (xs : List α) :
    groupFold key (x :: xs) =
      (key x, x :: xs.filter (key · = key x)) :: groupFold key (xs.filter (key · ≠ key x)) := by
  rw [groupFold_eq_foldl, groupFold_eq_foldl]
  exact foldl_groupStep_cons key xs (key x) [x] [] List.not_mem_nil

theorem groupFold_induction (key : α → κ) {P : List α → Prop} (nil : P [])
    (cons : ∀ x xs, P (xs.filter (key · ≠ key x)) → P (x :: xs)) : ∀ xs, P xs
  | [] => nil
  | x :: xs => cons x xs (groupFold_induction key nil cons _)
termination_by xs => xs.length
decreasing_by exact Nat.lt_succ_of_le (List.length_filter_le _ _)

theorem groupFold_spec (key : α → κ) (items : List α) :
    ∀ e ∈ groupFold key items, e.2 = items.filter (key · = e.1) := by
  induction items using groupFold_induction key with
  | nil => intro e he; cases he
  | cons x xs ih =>
    have hnd := groupFold_keys_nodup key (x :: xs)
    rw [groupFold_cons] at hnd ⊢
    intro e he
    rcases List.mem_cons.mp he with rfl | he
    · exact (List.filter_cons_of_pos (p := fun y => decide (key y = key x)) (decide_eq_true rfl)).symm
    · -- a later group has another key than the first
      have hne : key x ≠ e.1 := fun h => (List.nodup_cons.mp hnd).1 (List.mem_map.mpr ⟨e, he, h.symm⟩)
      rw [ih e he, List.filter_filter, List.filter_cons_of_neg (by simpa using hne)]
      refine List.filter_congr fun z _ => ?_
      by_cases hz : key z = e.1 <;> simp [hz, Ne.symm hne]

def groupsFlat (g : List (κ × List α)) : List α := g.flatMap (·.2)

/-- **grouping_partition (nothing lost or duplicated)** every database allele belongs to exactly
one major allele. -/
theorem groupFold_perm (key : α → κ) (items : List α) : (groupsFlat (groupFold key items)).Perm items := by
  induction items using groupFold_induction key with
  | nil => exact .refl _
  | cons x xs ih =>
    rw [groupFold_cons, groupsFlat, List.flatMap_cons, List.cons_append]
    refine ((ih.append_left _).trans ?_).cons x
    simpa only [ne_eq, decide_not] using List.filter_append_perm (key · = key x) xs

/-- alleles of one major allele share structure and core-variant set; minors merged as duplicates
have equal variant sets. -/
theorem groupFold_members (key : α → κ) (items : List α) :
    ∀ e ∈ groupFold key items, ∀ y ∈ e.2, key y = e.1 := by
  intro e he y hy
  rw [groupFold_spec key items e he] at hy
  exact of_decide_eq_true (List.mem_filter.mp hy).2

theorem groupFold_separates (key : α → κ) (items : List α) (e : κ × List α) (he : e ∈ groupFold key items)
    (x y : α) (hx : x ∈ e.2) (hy : y ∈ e.2) : key x = key y := by
  rw [groupFold_members key items e he x hx, groupFold_members key items e he y hy]

/-- **core_iff_functional / partials_are_restrictions** the core set of a grouping key is the
functional part of the allele's variants, and a partial allele keeps exactly the variants that
pass the retained-region test: both are `List.filter`, so membership is the conjunction. -/
theorem filter_spec (p : Mut → Bool) (ms : List Mut) (m : Mut) : m ∈ ms.filter p ↔ m ∈ ms ∧ p m = true :=
  List.mem_filter

theorem sortMuts_mem (ms : List Mut) (m : Mut) : m ∈ sortMuts ms ↔ m ∈ ms :=
  mem_sortStable mutLtK

theorem dedupMinors_distinct (ms : List MajorA) : ∀ a ∈ dedupMinors ms, (a.minors.map (·.neutral)).Nodup := by
  intro a ha
  obtain ⟨b, _, rfl⟩ := List.mem_map.mp ha
  simp only [List.map_map]
  exact groupFold_keys_nodup (fun s : MinorA => s.neutral) b.minors

/-- **minors_distinct** in the catalogue the loader builds, the minor alleles of one major
allele have pairwise different variant sets (duplicates are merged under the smallest name) -/
theorem catalogue_minors_distinct (db : RawDb) :
    ∀ a ∈ (buildCatalogue db).alleles, (a.minors.map (·.neutral)).Nodup := by
  have : ∃ ms, (buildCatalogue db).alleles = dedupMinors ms := by
    -- the builder ends in `dedupMinors`; its `let`s are named first, since `rfl` on the plain
    -- definition unfolds every one of them at each use (slow to check)
    unfold buildCatalogue
    extract_lets
    split
    extract_lets
    exact ⟨_, rfl⟩
  obtain ⟨ms, h⟩ := this
  exact h ▸ dedupMinors_distinct ms

example : groupFold (fun (x : Nat) => x % 3) [1, 2, 4, 5, 3] = [(1, [1, 4]), (2, [2, 5]), (0, [3])] := by decide
example : alleleName "CYP2D6*4.001" = "4.001" := by decide +kernel

end Aldy
