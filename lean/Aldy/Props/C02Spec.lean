import Aldy.Lemmas.Planted
import Aldy.Lemmas.Keyed
import Aldy.Props.C02

/-!
# C02 — the score of a major-allele call is the documented one, and it is attained

`MajorInst.specMajor I k` (`Model/Planted.lean`) is the documented score of calling `k a` copies of every
candidate allele `a`; it never looks at the ILP.  The results are read off one statement,
`sat_iff_of_selects`: a point whose copy selectors are those of a multiset `k` is feasible iff `k` is
admissible and every other variable has the value `k` determines, the helpers only dominating the
absolute errors (`Determined`).
-/

namespace Aldy
open MajorInst

theorem absQ_eq_abs (x : Rat) : absQ x = |x| := ite_neg_eq_abs x

/-- the assignment a multiset `k` of candidate alleles determines -/
def decσ (I : MajorInst) (k : String → Nat) : MVar → Rat
  | .A a i => if i < k a then 1 else 0
  | .OR m => if carriedB I k m then 1 else 0
  | .XOR _ => 1
  | .N m => if carriedB I k m then 0 else 1
  | .E m =>
    if m.op == "_" then I.observed m - I.refCount k m.pos
    else I.observed m - (I.carriersCount k m + (if carriedB I k m then 0 else 1))
  | .ABS m =>
    if m.op == "_" then |I.observed m - I.refCount k m.pos|
    else |I.observed m - (I.carriersCount k m + (if carriedB I k m then 0 else 1))|
  | .NOVEL => if (I.novelOf k).isEmpty then 0 else 1

/-- what `admissibleB` decides -/
structure Admissible (I : MajorInst) (k : String → Nat) : Prop where
  fits : ∀ a ∈ I.alleles, k a.name ≤ max 1 (I.cn.count a.cnConfig)
  fills : ∀ cc ∈ I.cn.solution, plantedSum k (I.alleles.filter fun a => a.cnConfig == cc.1) = (cc.2 : Rat)
  oneNovel : ∀ pos ∈ I.positions, ((I.novelOf k).filter fun m => m.pos == pos && !m.isIns).length ≤ 1

theorem admissibleB_iff (I : MajorInst) (k : String → Nat) : I.admissibleB k = true ↔ Admissible I k := by
  simp only [admissibleB, Bool.and_eq_true, List.all_eq_true, decide_eq_true_eq]
  constructor
  · rintro ⟨⟨h1, h2⟩, h3⟩; exact ⟨h1, h2, h3⟩
  · intro h; exact ⟨⟨h.fits, h.fills⟩, h.oneNovel⟩

theorem decσ_A_eq_planted (I : MajorInst) (k : String → Nat) (a : String) (i : Nat) :
    decσ I k (.A a i) = plantedσ I k (.A a i) := rfl

structure Determined (I : MajorInst) (σ : MVar → Rat) (k : String → Nat) : Prop where
  flagOR : ∀ m ∈ I.funcMuts, σ (.OR m) = if carriedB I k m then 1 else 0
  flagXOR : ∀ m ∈ I.funcMuts, σ (.XOR m) = 1
  flagN : ∀ m ∈ I.funcMuts, σ (.N m) = if carriedB I k m then 0 else 1
  flagNOVEL : σ .NOVEL = if (I.novelOf k).isEmpty then 0 else 1
  errVar : ∀ m ∈ I.funcMuts,
    σ (.E m) = I.observed m - (I.carriersCount k m + (if carriedB I k m then 0 else 1))
  errRef : ∀ pos ∈ I.positions, σ (.E (refMut pos)) = I.observed (refMut pos) - I.refCount k pos
  abs : ∀ m ∈ I.errRows, |σ (.E m)| ≤ σ (.ABS m)

section Decision
variable {I : MajorInst} {σ : MVar → Rat} {k : String → Nat}

/-- `Selects` as the theorems about `decσ` below spell it -/
theorem selects_iff : Selects I σ k ↔ ∀ s ∈ I.slots, σ (va s) = decσ I k (va s) := Iff.rfl

theorem MajorInst.Selects.carried_iff (hsel : Selects I σ k) (m : Mut) :
    (∃ s ∈ I.carriers m, σ (va s) = 1) ↔ carriedB I k m = true := by
  simp only [carriedB, List.any_eq_true, Bool.and_eq_true, decide_eq_true_eq, carriers, List.mem_filter]
  constructor
  · rintro ⟨s, ⟨hs, hc⟩, h1⟩
    exact ⟨s.1, (mem_slots.mp hs).1, hc, Nat.zero_lt_of_lt ((eq_ite_one_zero_iff.mp (hsel s hs)).2.mp h1)⟩
  · rintro ⟨a, ha, hc, hk⟩
    have hs : (a, 0) ∈ I.slots := mem_slots.mpr ⟨ha, lt_max_of_lt_left Nat.one_pos⟩
    exact ⟨(a, 0), ⟨hs, hc⟩, (hsel _ hs).trans (if_pos hk)⟩

theorem sum_flags (ms : List Mut) (hN : ∀ m ∈ ms, σ (.N m) = if carriedB I k m then 0 else 1) :
    sumVars σ (ms.map MVar.N) = ((ms.filter fun m => !carriedB I k m).length : Rat) := by
  -- a sum of 0/1 values counts the ones, and `N m` is one iff `m` is uncarried
  rw [sumVars_eq_count σ _ (List.forall_mem_map.mpr fun m hm => (eq_ite_zero_one_iff.mp (hN m hm)).1),
    List.filter_map, List.length_map]
  refine congrArg (fun l : List Mut => (l.length : Rat)) (List.filter_congr fun m hm => ?_)
  rw [Function.comp_apply, Bool.eq_iff_iff, decide_eq_true_eq, (eq_ite_zero_one_iff.mp (hN m hm)).2,
    Bool.not_eq_true', Bool.not_eq_true]

theorem novelOf_filter (I : MajorInst) (k : String → Nat) (pos : Int) :
    (I.novelOf k).filter (fun m => m.pos == pos && !m.isIns) =
      (I.funcMuts.filter fun m => m.pos == pos && !m.isIns).filter fun m => !carriedB I k m := by
  unfold MajorInst.novelOf
  rw [List.filter_filter, List.filter_filter]
  exact List.filter_congr fun m _ => Bool.and_comm _ _

theorem novelOf_isEmpty (I : MajorInst) (k : String → Nat) :
    ¬(I.novelOf k).isEmpty ↔ ∃ m ∈ I.funcMuts, ¬carriedB I k m := by
  rw [Bool.not_eq_true, List.isEmpty_eq_false_iff_exists_mem]
  simp only [novelOf, List.mem_filter, Bool.not_eq_eq_eq_not, Bool.not_true, Bool.not_eq_true]

theorem sat_iff_of_selects (hsel : Selects I σ k)
    (hfit : ∀ a ∈ I.alleles, k a.name ≤ max 1 (I.cn.count a.cnConfig)) :
    I.build.Sat σ ↔ Admissible I k ∧ Determined I σ k := by
  have hone : (∀ m ∈ I.funcMuts, σ (.N m) = if carriedB I k m then 0 else 1) → ∀ pos,
      (sumVars σ ((I.funcMuts.filter fun m => m.pos == pos && !m.isIns).map MVar.N) ≤ 1 ↔
        ((I.novelOf k).filter fun m => m.pos == pos && !m.isIns).length ≤ 1) := fun hN pos => by
    rw [novelOf_filter, sum_flags _ fun m hm => hN m (List.mem_filter.mp hm).1, Nat.cast_le_one]
  have hnovel : (∀ m ∈ I.funcMuts, σ (.N m) = if carriedB I k m then 0 else 1) →
      ((∃ m ∈ I.funcMuts, σ (.N m) = 1) ↔ ¬(I.novelOf k).isEmpty) := fun hN => by
    rw [novelOf_isEmpty]
    exact exists_congr fun m => and_congr_right fun hm => (eq_ite_zero_one_iff.mp (hN m hm)).2
  rw [sat_iff]
  constructor
  · intro h
    have hOR : ∀ m ∈ I.funcMuts, σ (.OR m) = if carriedB I k m then 1 else 0 := fun m hm =>
      eq_ite_one_zero_iff.mpr ⟨h.binOR m hm, (h.carried m hm).trans (hsel.carried_iff m)⟩
    have hN : ∀ m ∈ I.funcMuts, σ (.N m) = if carriedB I k m then 0 else 1 := fun m hm => by
      rw [eq_sub_of_add_eq (h.xor m hm).2, hOR m hm, one_sub_ite]
    exact ⟨
      { fits := hfit
        fills := fun cc hcc => (hsel.sum hfit fun a => a.cnConfig == cc.1).symm.trans (h.fill cc hcc)
        oneNovel := fun pos hp => (hone hN pos).mp (h.one pos hp) },
      { flagOR := hOR
        flagXOR := fun m hm => (h.xor m hm).1
        flagN := hN
        flagNOVEL := eq_ite_zero_one_iff.mpr ⟨h.binNOVEL, h.novel.trans (hnovel hN)⟩
        errVar := fun m hm => by rw [h.errVar m hm, hN m hm, hsel.sum_carriers hfit]
        errRef := fun pos hp => by rw [h.errRef pos hp, hsel.sum_refCarriers hfit]
        abs := h.abs }⟩
  · rintro ⟨hA, hD⟩
    exact
      { binA := fun s hs => by rw [hsel s hs]; exact isBin_ite _
        binN := fun m hm => (eq_ite_zero_one_iff.mp (hD.flagN m hm)).1
        binOR := fun m hm => (eq_ite_one_zero_iff.mp (hD.flagOR m hm)).1
        binNOVEL := (eq_ite_zero_one_iff.mp hD.flagNOVEL).1
        ord := fun s hs hpos => by
          obtain ⟨ha, hi⟩ := mem_slots.mp hs
          rw [hsel s hs, show σ (.A s.1.name (s.2 - 1)) = _ from
            hsel (s.1, s.2 - 1) (mem_slots.mpr ⟨ha, (Nat.sub_le _ _).trans_lt hi⟩)]
          by_cases h1 : s.2 < k s.1.name
          · rw [if_pos h1, if_pos ((Nat.sub_le _ _).trans_lt h1)]
          · rw [if_neg h1]; exact (isBin_ite _).nonneg
        one := fun pos hp => (hone hD.flagN pos).mpr (hA.oneNovel pos hp)
        fill := fun cc hcc => (hsel.sum hfit fun a => a.cnConfig == cc.1).trans (hA.fills cc hcc)
        errVar := fun m hm => by rw [hD.errVar m hm, hD.flagN m hm, hsel.sum_carriers hfit]
        errRef := fun pos hp => by rw [hD.errRef pos hp, hsel.sum_refCarriers hfit]
        abs := hD.abs
        carried := fun m hm => (eq_ite_one_zero_iff.mp (hD.flagOR m hm)).2.trans (hsel.carried_iff m).symm
        xor := fun m hm => ⟨hD.flagXOR m hm, by rw [hD.flagN m hm, hD.flagOR m hm, ← one_sub_ite, sub_add_cancel]⟩
        novel := (eq_ite_zero_one_iff.mp hD.flagNOVEL).2.trans (hnovel hD.flagN).symm }

/-- the left side is the objective (`objective_eq`) with every helper `ABS m` at its least value `|E m|` -/
theorem Determined.score (hD : Determined I σ k) :
    (I.errRows.map fun m => |σ (.E m)|).sum + I.majorNovel * σ .NOVEL +
      Const.MAJOR_NOVEL_EACH * sumVars σ (I.funcMuts.map MVar.N) = I.specMajor k := by
  have e1 : (I.funcMuts.map fun m => |σ (.E m)|) = I.funcMuts.map fun m =>
      absQ (I.observed m - (I.carriersCount k m + (if carriedB I k m then 0 else 1))) :=
    List.map_congr_left fun m hm => by rw [hD.errVar m hm, absQ_eq_abs]
  have e2 : (I.positions.map fun pos => |σ (.E (refMut pos))|) = I.positions.map fun pos =>
      absQ (I.observed (refMut pos) - I.refCount k pos) :=
    List.map_congr_left fun pos hp => by rw [hD.errRef pos hp, absQ_eq_abs]
  rw [sum_errRows, e1, e2, sum_flags _ hD.flagN, hD.flagNOVEL]
  rfl

theorem Determined.objective_of_tight (hD : Determined I σ k) (htight : ∀ m ∈ I.errRows, σ (.ABS m) = |σ (.E m)|) :
    I.build.objective σ = I.specMajor k := by
  rw [objective_eq, List.map_congr_left htight]
  exact hD.score

end Decision

section Score
variable (I : MajorInst) (k : String → Nat)

/-- **major_decision_achievable** every admissible multiset is the decision of a feasible point
whose objective is its documented score -/
theorem major_decision_achievable (hA : Admissible I k) (hops : ∀ m ∈ I.funcMuts, (m.op == "_") = false) :
    I.build.Sat (decσ I k) ∧ I.build.objective (decσ I k) = I.specMajor k := by
  -- `decσ` tells variant rows from reference rows by the operation: `hops` keeps them apart.  (`_` marks a
  -- reference row and is no operation of the catalogue; `opMajorSpec`, Driver/C02, reports `hops` as `no_ref_ops`.)
  have hE : ∀ m ∈ I.funcMuts,
      decσ I k (.E m) = I.observed m - (I.carriersCount k m + (if carriedB I k m then 0 else 1)) :=
    fun m hm => if_neg (Bool.eq_false_iff.mp (hops m hm))
  have hABS : ∀ m ∈ I.errRows, decσ I k (.ABS m) = |decσ I k (.E m)| := fun m _ =>
    (apply_ite (|·|) (m.op == "_") _ _).symm
  have hD : Determined I (decσ I k) k :=
    ⟨fun _ _ => rfl, fun _ _ => rfl, fun _ _ => rfl, rfl, hE, fun _ _ => rfl, fun m hm => (hABS m hm).ge⟩
  exact ⟨(sat_iff_of_selects (selects_iff.mpr fun _ _ => rfl) hA.fits).mpr ⟨hA, hD⟩, hD.objective_of_tight hABS⟩

/-- **major_spec_lower_bound** -/
theorem major_spec_lower_bound (σ : MVar → Rat) (h : I.build.Sat σ)
    (hfit : ∀ a ∈ I.alleles, k a.name ≤ max 1 (I.cn.count a.cnConfig))
    (hdec : ∀ s ∈ I.slots, σ (va s) = decσ I k (va s)) :
    I.specMajor k ≤ I.build.objective σ := by
  have hD := ((sat_iff_of_selects (selects_iff.mpr hdec) hfit).mp h).2
  rw [← hD.score, objective_eq]
  exact add_le_add_left (add_le_add_left (sum_map_le I.errRows _ _ hD.abs) _) _

/-- **major_min_objective_is_spec** among the feasible points that select an admissible multiset
`k` the least objective is the documented score of `k`, and it is attained -/
theorem major_min_objective_is_spec (hA : Admissible I k) (hops : ∀ m ∈ I.funcMuts, (m.op == "_") = false) :
    (∃ σ, I.build.Sat σ ∧ (∀ s ∈ I.slots, σ (va s) = decσ I k (va s)) ∧ I.build.objective σ = I.specMajor k) ∧
    (∀ σ, I.build.Sat σ → (∀ s ∈ I.slots, σ (va s) = decσ I k (va s)) → I.specMajor k ≤ I.build.objective σ) := by
  obtain ⟨hs, ho⟩ := major_decision_achievable I k hA hops
  exact ⟨⟨decσ I k, hs, fun _ _ => rfl, ho⟩, fun σ h hd => major_spec_lower_bound I k σ h hA.fits hd⟩

end Score

/-- a non-increasing 0/1 sequence is the indicator of an initial segment -/
theorem mono_bin_prefix (f : Nat → Rat) (N : Nat) (hbin : ∀ i < N, IsBin (f i))
    (hmono : ∀ i, 0 < i → i < N → f i ≤ f (i - 1)) :
    ∀ i < N, f i = if i < ((List.range N).filter fun j => decide (f j = 1)).length then 1 else 0 := by
  induction N with
  | zero => exact fun i hi => absurd hi (Nat.not_lt_zero i)
  | succ N ih =>
    have ih' := ih (fun i hi => hbin i (Nat.lt_succ_of_lt hi)) fun i h0 hi => hmono i h0 (Nat.lt_succ_of_lt hi)
    have hlen : ((List.range N).filter fun j => decide (f j = 1)).length ≤ N :=
      (List.length_filter_le _ _).trans_eq List.length_range
    intro i hi
    rw [List.range_succ, List.filter_append, List.length_append]
    by_cases hN1 : f N = 1
    · -- the selector before `N` is on as well, so `ih'` counts all `N` earlier ones: all are on
      have hc : ((List.range N).filter fun j => decide (f j = 1)).length = N := by
        cases N with
        | zero => rfl
        | succ M =>
          have h1 : f M = 1 := le_antisymm (hbin M (Nat.lt_succ_of_lt M.lt_succ_self)).le_one
            (hN1.ge.trans (hmono (M + 1) M.succ_pos M.succ.lt_succ_self))
          exact le_antisymm hlen ((eq_ite_one_zero_iff.mp (ih' M M.lt_succ_self)).2.mp h1)
      rw [hc, List.filter_cons, if_pos (decide_eq_true hN1), List.filter_nil, List.length_singleton, if_pos hi]
      rcases Nat.lt_succ_iff_lt_or_eq.mp hi with hlt | rfl
      · rw [ih' i hlt, hc, if_pos hlt]
      · exact hN1
    · rw [List.filter_cons, if_neg (mt of_decide_eq_true hN1), List.filter_nil, List.length_nil, Nat.add_zero]
      rcases Nat.lt_succ_iff_lt_or_eq.mp hi with hlt | rfl
      · exact ih' i hlt
      · rw [if_neg (Nat.not_lt.mpr hlen)]
        exact (hbin i hi).eq_zero_of_ne_one hN1

/-- the multiset a point selects: per candidate allele, the number of its copy selectors that are on -/
def kOf (I : MajorInst) (σ : MVar → Rat) (name : String) : Nat :=
  match I.alleles.find? (fun a => a.name == name) with
  | some a => ((List.range (max 1 (I.cn.count a.cnConfig))).filter fun j => decide (σ (.A name j) = 1)).length
  | none => 0

/-- **major_decision_of_sat** every feasible point selects an admissible multiset: its copy
selectors are exactly those of `kOf I σ` (copy selectors are ordered) -/
theorem major_decision_of_sat (I : MajorInst) (σ : MVar → Rat) (h : I.build.Sat σ)
    (hnames : (I.alleles.map (·.name)).Nodup) :
    (∀ s ∈ I.slots, σ (va s) = decσ I (kOf I σ) (va s)) ∧ Admissible I (kOf I σ) := by
  have hf := sat_iff.mp h
  -- `hnames`: the candidates are the entries of `allele_dict`, a dictionary keyed by name
  have hk : ∀ a ∈ I.alleles, kOf I σ a.name =
      ((List.range (max 1 (I.cn.count a.cnConfig))).filter fun j => decide (σ (.A a.name j) = 1)).length :=
    fun a ha => by unfold kOf; rw [find?_key_of_mem (·.name) hnames ha]
  have hdec : Selects I σ (kOf I σ) := fun s hs => by
    obtain ⟨ha, hi⟩ := mem_slots.mp hs
    have hslot : ∀ j < max 1 (I.cn.count s.1.cnConfig), (s.1, j) ∈ I.slots := fun j hj => mem_slots.mpr ⟨ha, hj⟩
    rw [hk s.1 ha]
    exact mono_bin_prefix (fun j => σ (.A s.1.name j)) _ (fun j hj => hf.binA (s.1, j) (hslot j hj))
      (fun j h0 hj => hf.ord (s.1, j) (hslot j hj) h0) s.2 hi
  have hfit : ∀ a ∈ I.alleles, kOf I σ a.name ≤ max 1 (I.cn.count a.cnConfig) := fun a ha => by
    rw [hk a ha]
    exact (List.length_filter_le _ _).trans_eq List.length_range
  exact ⟨selects_iff.mp hdec, ((sat_iff_of_selects hdec hfit).mp h).1⟩

/-- **major_optimal_score_is_least_documented** END TO END for the major model: the objective of
any optimum is the documented score of the multiset it selects, that multiset is admissible, and
no admissible multiset has a lower documented score -/
theorem major_optimal_score_is_least_documented (I : MajorInst) (σ : MVar → Rat) (h : I.build.Sat σ)
    (hopt : ∀ τ, I.build.Sat τ → I.build.objective σ ≤ I.build.objective τ)
    (hnames : (I.alleles.map (·.name)).Nodup) (hops : ∀ m ∈ I.funcMuts, (m.op == "_") = false) :
    Admissible I (kOf I σ) ∧ I.build.objective σ = I.specMajor (kOf I σ) ∧
      ∀ k', Admissible I k' → I.specMajor (kOf I σ) ≤ I.specMajor k' := by
  obtain ⟨hdec, hA⟩ := major_decision_of_sat I σ h hnames
  exact ⟨hA, Ilp.optimum_is_spec_min (V := MVar) (D := String → Nat) I.build (Admissible I) I.specMajor
    (fun k' hA' => ⟨decσ I k', major_decision_achievable I k' hA' hops⟩)
    σ hopt (kOf I σ) hA (major_spec_lower_bound I _ σ h hA.fits hdec)⟩

/-! ### non-vacuity: the example instance of C02 -/
example : exInst.admissibleB (fun a => if a == "1" then 1 else if a == "2" then 1 else 0) = true := by decide +kernel
example : exInst.specMajor (fun a => if a == "1" then 1 else if a == "2" then 1 else 0) = 0 := by decide +kernel
example : exInst.specMajor (fun a => if a == "1" then 2 else 0) > 0 := by decide +kernel

end Aldy
