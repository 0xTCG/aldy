import Aldy.Props.C02Spec

/-!
# C13 — the major stage cannot tell two builds apart (spec level)

`Props/C02Spec.lean` shows that the objective of any optimum of the major model is the least
documented score `specMajor I k` among the admissible multisets `k`, keyed by allele *name*, which
is the same in every build.  So it is enough that admissibility and `specMajor` agree on the
instances `I`, `J` of two builds or strands that *correspond* (`MajorCorr`): both builds then have
the same optimal multisets with the same scores, whatever the order in which they enumerate
variants and sites, without comparing the two ILPs at all.  `MajorCorr` asks of the relabelling `π`
of core variants and `ρ` of sites only what `Admissible` and `specMajor` read, and is decidable from
the two real stage inputs.
-/

namespace Aldy
open MajorInst

/-- one candidate allele as the two builds' databases spell it (the minor alleles do not matter to
the major stage) -/
def SameAllele (π : Mut → Mut) (a b : MajorA) : Prop :=
  b.name = a.name ∧ b.cnConfig = a.cnConfig ∧ b.func.Perm (a.func.map π)

theorem forall₂_any {α : Type} {R : α → α → Prop} {M L : List α} (h : List.Forall₂ R M L) (p q : α → Bool)
    (hpq : ∀ a b, a ∈ M → R a b → p b = q a) : L.any p = M.any q := by
  induction h with
  | nil => rfl
  | cons hab _ ih =>
    rw [List.any_cons, List.any_cons, hpq _ _ List.mem_cons_self hab,
      ih fun a b ha => hpq a b (List.mem_cons_of_mem _ ha)]

theorem forall₂_sum_filter {α : Type} {R : α → α → Prop} {M L : List α} (h : List.Forall₂ R M L) (P Q : α → Bool)
    (w w' : α → Rat) (hpq : ∀ a b, a ∈ M → R a b → P b = Q a ∧ w b = w' a) :
    ((L.filter P).map w).sum = ((M.filter Q).map w').sum := by
  induction h with
  | nil => rfl
  | cons hab _ ih =>
    have ih' := ih fun a b ha => hpq a b (List.mem_cons_of_mem _ ha)
    obtain ⟨h1, h2⟩ := hpq _ _ List.mem_cons_self hab
    rw [List.filter_cons, List.filter_cons, h1]
    split_ifs
    · rw [List.map_cons, List.map_cons, List.sum_cons, List.sum_cons, h2, ih']
    · exact ih'

theorem forall₂_forall {α : Type} {R : α → α → Prop} {M L : List α} (h : List.Forall₂ R M L) (S S' : α → Prop)
    (hss : ∀ a b, a ∈ M → R a b → (S b ↔ S' a)) : (∀ b ∈ L, S b) ↔ (∀ a ∈ M, S' a) := by
  induction h with
  | nil => simp only [List.not_mem_nil, false_imp_iff, implies_true]
  | cons hab _ ih =>
    rw [List.forall_mem_cons, List.forall_mem_cons, hss _ _ List.mem_cons_self hab,
      ih fun a b ha => hss a b (List.mem_cons_of_mem _ ha)]

/-- two major-stage instances that describe the same sample against two builds -/
structure MajorCorr (I J : MajorInst) (π : Mut → Mut) (ρ : Int → Int) : Prop where
  alleles : List.Forall₂ (SameAllele π) I.alleles J.alleles
  cn : J.cn = I.cn
  novelPenalty : J.majorNovel = I.majorNovel
  funcs : J.funcMuts.Perm (I.funcMuts.map π)
  sites : J.positions.Perm (I.positions.map ρ)
  carries : ∀ a ∈ I.alleles, ∀ m ∈ I.funcMuts, (a.func.map π).contains (π m) = a.func.contains m
  atSite : ∀ a ∈ I.alleles, ∀ p ∈ I.positions,
    ((a.func.map π).any fun ma => ma.pos == ρ p && !ma.isIns) = (a.func.any fun ma => ma.pos == p && !ma.isIns)
  mutSite : ∀ m ∈ I.funcMuts, ∀ p ∈ I.positions, ((π m).pos == ρ p && !(π m).isIns) = (m.pos == p && !m.isIns)
  obsVar : ∀ m ∈ I.funcMuts, J.observed (π m) = I.observed m
  obsRef : ∀ p ∈ I.positions, J.observed (refMut (ρ p)) = I.observed (refMut p)
  copies : ∀ a ∈ I.alleles, ∀ p ∈ I.positions, J.gene.hasCoverage a.name (ρ p) = I.gene.hasCoverage a.name p

section
variable {I J : MajorInst} {π : Mut → Mut} {ρ : Int → Int} (h : MajorCorr I J π ρ) (k : String → Nat)
include h

theorem corr_carriedB (m : Mut) (hm : m ∈ I.funcMuts) : carriedB J k (π m) = carriedB I k m :=
  forall₂_any h.alleles _ _ fun a b ha hab => by rw [hab.2.2.contains_eq, h.carries a ha m hm, hab.1]

theorem corr_plantedSum (P Q : MajorA → Bool) (hPQ : ∀ a b, a ∈ I.alleles → SameAllele π a b → P b = Q a) :
    plantedSum k (J.alleles.filter P) = plantedSum k (I.alleles.filter Q) :=
  forall₂_sum_filter h.alleles P Q _ _ fun a b ha hab => ⟨hPQ a b ha hab, by rw [hab.1]⟩

theorem corr_carriersCount (m : Mut) (hm : m ∈ I.funcMuts) : J.carriersCount k (π m) = I.carriersCount k m :=
  corr_plantedSum h k _ _ fun a b ha hab => by rw [hab.2.2.contains_eq, h.carries a ha m hm]

theorem corr_refCount (p : Int) (hp : p ∈ I.positions) : J.refCount k (ρ p) = I.refCount k p :=
  corr_plantedSum h k _ _ fun a b ha hab => by rw [hab.2.2.any_eq, hab.1, h.copies a ha p hp, h.atSite a ha p hp]

theorem corr_novelOf : (J.novelOf k).Perm ((I.novelOf k).map π) := by
  refine (h.funcs.filter fun m => !carriedB J k m).trans (.of_eq ?_)
  rw [List.filter_map]
  exact congrArg _ (List.filter_congr fun m hm => by rw [Function.comp_apply, corr_carriedB h k m hm])

theorem corr_admissible : Admissible J k ↔ Admissible I k := by
  have hfit : (∀ a ∈ J.alleles, k a.name ≤ max 1 (J.cn.count a.cnConfig)) ↔
      (∀ a ∈ I.alleles, k a.name ≤ max 1 (I.cn.count a.cnConfig)) :=
    forall₂_forall h.alleles _ _ fun a b _ hab => by rw [h.cn, hab.1, hab.2.1]
  have hfill : (∀ cc ∈ J.cn.solution, plantedSum k (J.alleles.filter fun a => a.cnConfig == cc.1) = (cc.2 : Rat)) ↔
      (∀ cc ∈ I.cn.solution, plantedSum k (I.alleles.filter fun a => a.cnConfig == cc.1) = (cc.2 : Rat)) := by
    rw [h.cn]
    exact forall₂_congr fun cc _ => by rw [corr_plantedSum h k _ _ fun a b _ hab => by rw [hab.2.1]]
  -- the sites of `J` are the `ρ p`; the uncarried variants of `J` at `ρ p` are the `π m` of those of `I` at `p`
  have hone : (∀ pos ∈ J.positions, ((J.novelOf k).filter fun m => m.pos == pos && !m.isIns).length ≤ 1) ↔
      (∀ pos ∈ I.positions, ((I.novelOf k).filter fun m => m.pos == pos && !m.isIns).length ≤ 1) := by
    simp only [h.sites.mem_iff, List.forall_mem_map]
    refine forall₂_congr fun p hp => ?_
    rw [((corr_novelOf h k).filter _).length_eq, List.filter_map, List.length_map]
    exact iff_of_eq (congrArg (·.length ≤ 1)
      (List.filter_congr fun m hm => h.mutSite m (List.mem_filter.mp hm).1 p hp))
  exact ⟨fun hA => ⟨hfit.mp hA.fits, hfill.mp hA.fills, hone.mp hA.oneNovel⟩,
    fun hA => ⟨hfit.mpr hA.fits, hfill.mpr hA.fills, hone.mpr hA.oneNovel⟩⟩

theorem corr_specMajor : J.specMajor k = I.specMajor k := by
  have hnov := corr_novelOf h k
  unfold MajorInst.specMajor
  rw [hnov.length_eq, hnov.isEmpty_eq, List.length_map, List.isEmpty_map, h.novelPenalty]
  -- the two sums remain (`congr 3` gets there too, but first tries to unify them, which is slow)
  refine congrArg₂ (· + ·) (congrArg₂ (· + ·) (congrArg₂ (· + ·) ?_ ?_) rfl) rfl
  · rw [perm_sum_map h.funcs, List.map_map]
    exact sum_map_congr _ _ _ fun m hm => by
      rw [Function.comp_apply, h.obsVar m hm, corr_carriersCount h k m hm, corr_carriedB h k m hm]
  · rw [perm_sum_map h.sites, List.map_map]
    exact sum_map_congr _ _ _ fun p hp => by rw [Function.comp_apply, h.obsRef p hp, corr_refCount h k p hp]

end

/-- **spec_major_build_independent** -/
theorem spec_major_build_independent {I J : MajorInst} {π : Mut → Mut} {ρ : Int → Int} (h : MajorCorr I J π ρ)
    (k : String → Nat) :
    (Admissible J k ↔ Admissible I k) ∧ J.specMajor k = I.specMajor k :=
  ⟨corr_admissible h k, corr_specMajor h k⟩

/-- **major_optimum_build_independent** a multiset of least documented score in one build has least
documented score in the other -/
theorem major_optimum_build_independent {I J : MajorInst} {π : Mut → Mut} {ρ : Int → Int} (h : MajorCorr I J π ρ)
    (k : String → Nat) (hk : Admissible I k) (hmin : ∀ k', Admissible I k' → I.specMajor k ≤ I.specMajor k') :
    Admissible J k ∧ ∀ k', Admissible J k' → J.specMajor k ≤ J.specMajor k' := by
  refine ⟨(spec_major_build_independent h k).1.mpr hk, ?_⟩
  intro k' hk'
  rw [(spec_major_build_independent h k).2, (spec_major_build_independent h k').2]
  exact hmin k' ((spec_major_build_independent h k').1.mp hk')

theorem zipAll_forall₂ {α : Type} (r : α → α → Bool) (R : α → α → Prop) (hr : ∀ a b, r a b = true → R a b) :
    ∀ (M L : List α), zipAll r M L = true → List.Forall₂ R M L
  | [], [], _ => List.Forall₂.nil
  | a :: as, b :: bs, h => by
    simp only [zipAll, Bool.and_eq_true] at h
    exact List.Forall₂.cons (hr a b h.1) (zipAll_forall₂ r R hr as bs h.2)
  | [], _ :: _, h => by simp [zipAll] at h
  | _ :: _, [], h => by simp [zipAll] at h

/-- **majorCorrB_sound** the boolean the driver evaluates on the two real stage inputs implies
`MajorCorr` -/
theorem majorCorrB_sound (I J : MajorInst) (πl : List (Mut × Mut)) (ρl : List (Int × Int))
    (h : majorCorrB I J πl ρl = true) : MajorCorr I J (piOf πl) (rhoOf ρl) := by
  simp only [majorCorrB, majorCorrClauses, List.all_cons, List.all_nil, Bool.and_true, Bool.and_eq_true,
    List.all_eq_true, decide_eq_true_eq, beq_iff_eq] at h
  obtain ⟨h1, h2, h3, h4, h5, h6, h7, h8, h9, h10, h11⟩ := h
  refine ⟨?_, ?_, h3, List.isPerm_iff.mp h4, List.isPerm_iff.mp h5, h6, h7, h8, h9, h10, h11⟩
  · apply zipAll_forall₂ _ _ _ _ _ h1
    intro a b hab
    simp only [sameAlleleB, Bool.and_eq_true, beq_iff_eq] at hab
    exact ⟨hab.1.1, hab.1.2, List.isPerm_iff.mp hab.2⟩
  · cases hj : J.cn
    cases hi : I.cn
    rw [hj, hi] at h2
    exact congrArg CNSol.mk h2

end Aldy
