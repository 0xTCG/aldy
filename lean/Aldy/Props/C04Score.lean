import Aldy.Props.C04

/-!
# C04 — the score of a refinement is the documented objective of the reported assignment

At every point the objective of the model `solve_minor_model` builds is (`minor_score_closed_form`)

    sum of the error helpers
  + minor_miss  * (number of definition variants dropped, over the slots)
  + minor_add   * (1 + k/1e6) for the k-th add selector that is set
  + minor_add/2 * (number of novel-core indicators set)
  + minor_phase * sum over the phase cells of  cnt * (agreeing selectors missed + disagreeing selectors hit)

and at a *feasible* point every summand is the 0/1 indicator this reading takes it for.
-/

namespace Aldy
open MinorInst

/-- **minor_score_closed_form** -/
theorem minor_score_closed_form (I : MinorInst) (σ : NVar → Rat) :
    I.build.objective σ =
      (I.errRows.map fun m => σ (.ABS m)).sum +
      I.minorMiss * (I.slots.map fun cs => (cs.1.defMuts.map fun m => σ (.A cs.2) - σ (.MULK m cs.2)).sum).sum +
      (I.newSelectors.zipIdx.map fun e =>
          I.minorAdd * (1 + (e.2 : Rat) / Const.MINOR_TIEBREAK_DIV) * σ (.N e.1.1 e.1.2)).sum +
      I.minorAdd / Const.MINOR_NOVEL_DIV * sumVars σ (I.novelMuts.map NVar.VNEWOR) +
      I.minorPhase * (I.phaseCells.map fun c => (c.cnt : Rat) *
          (((c.pos.zipIdx).map fun vi => σ (.PH c.ai c.ri) - σ (.PH2 c.ai c.ri vi.2)).sum +
           ((c.neg.zipIdx).map fun vi => σ (.PH3 c.ai c.ri vi.2)).sum)).sum := by
  simp only [Ilp.objective, build, evalTerms_append]
  rw [evalTerms_map_const, one_mul, sumVars_map, evalTerms_map, evalTerms_map, evalTerms_map_const,
    add_assoc (List.sum _)]
  -- errors, additions and novel-core indicators agree as they stand, which leaves the miss summand (two rows of
  -- the objective) and the phase summand
  congr 1
  congr 3
  · -- a slot contributes `miss * |def| * A - miss * (sum of its products)`
    rw [evalTerms_flatMap_sum, sum_add_sum, ← sum_map_mul_left]
    refine sum_map_congr _ _ _ fun cs _ => ?_
    induction cs.1.defMuts with
    | nil => simp
    | cons x xs ih =>
      rw [List.map_cons, evalTerms_cons, List.map_cons, List.sum_cons, mul_add, ← ih, List.length_cons]
      push_cast
      ring
  · -- a cell contributes `w * PH - w * PH2` per agreeing selector and `w * PH3` per disagreeing one, `w = phase * cnt`
    rw [phaseObj, evalTerms_flatMap_sum, ← sum_map_mul_left]
    refine sum_map_congr _ _ _ fun c _ => ?_
    rw [evalTerms_append, evalTerms_flatMap_sum, evalTerms_map, ← mul_assoc, mul_add, ← sum_map_mul_left,
      ← sum_map_mul_left]
    refine congrArg (· + _) (sum_map_congr _ _ _ fun vi _ => ?_)
    rw [evalTerms_cons, evalTerms_cons, evalTerms_nil]
    ring

/-- **minor_dropped_term** at a feasible point the "dropped" summand of a definition variant is
1 exactly for a selected slot that does not keep it -/
theorem minor_dropped_term (I : MinorInst) (σ : NVar → Rat) (h : I.build.Sat σ) (cs : MinorCand × MSlot)
    (hcs : cs ∈ I.slots) (m : Mut) (hm : m ∈ cs.1.defMuts) (hmm : m ∈ I.mutations) :
    σ (.A cs.2) - σ (.MULK m cs.2) = if σ (.A cs.2) = 1 ∧ σ (.K m cs.2) = 0 then 1 else 0 := by
  have hf := sat_iff.mp h
  rw [hf.mulK cs hcs m hm hmm]
  exact (hf.binA cs hcs).sub_mul_eq_ite (hf.binK cs hcs m hm)

/-- **minor_vnewor_exact** the novel-core indicator of a variant is set exactly if the variant is
added to some allele that does not have it among its core variants -/
theorem minor_vnewor_exact (I : MinorInst) (σ : NVar → Rat) (h : I.build.Sat σ) (m : Mut) (hm : m ∈ I.novelMuts) :
    σ (.VNEWOR m) = 1 ↔ ∃ v ∈ I.novelCoreSel m, σ v = 1 :=
  (sat_iff.mp h).novel m hm

/-- **minor_phase_terms** at a feasible point the read-phase summands of a cell are indicators: where
the pattern is attributed to the cell, an agreeing selector that is off costs 1 and so does a
disagreeing selector that is on -/
theorem minor_phase_terms (I : MinorInst) (σ : NVar → Rat) (h : I.build.Sat σ) (c : PhaseCell) (hc : c ∈ I.phaseCells) :
    (∀ vi ∈ c.pos.zipIdx, σ (.PH c.ai c.ri) - σ (.PH2 c.ai c.ri vi.2) =
        if σ (.PH c.ai c.ri) = 1 ∧ σ vi.1 = 0 then 1 else 0) ∧
    (∀ vi ∈ c.neg.zipIdx, σ (.PH3 c.ai c.ri vi.2) = if σ (.PH c.ai c.ri) = 1 ∧ σ vi.1 = 1 then 1 else 0) := by
  have hf := sat_iff.mp h
  obtain ⟨bPos, bNeg⟩ := phaseCell_bin hf.binK hf.binN hc
  constructor
  · intro vi hvi
    rw [hf.mulPos c hc vi hvi]
    exact (hf.binPH c hc).sub_mul_eq_ite (bPos vi hvi)
  · intro vi hvi
    rw [hf.mulNeg c hc vi hvi]
    exact (hf.binPH c hc).mul_eq_ite (bNeg vi hvi)

end Aldy
