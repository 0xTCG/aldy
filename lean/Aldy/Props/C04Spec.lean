import Aldy.Props.C04Tight
import Aldy.Props.C01Minor
import Aldy.Model.MinorSpec

/-!
# C04 — the score of a refinement is the documented objective of the reported assignment (spec level)

`MinorInst.specMinor I act` (`Model/MinorSpec.lean`) reads the reported assignment only (`A`, `K`,
`N`, `PH`).  At a feasible point every product helper is the AND of two reported selectors and every
error term is observed minus carried, so the objective is `specMinor` plus the slack of the error
helpers, which is 0 at an optimum (Props/C04Tight).
-/

namespace Aldy
open MinorInst

theorem absM_eq_abs (x : Rat) : absM x = |x| := ite_neg_eq_abs x

/-- the assignment a point reports -/
def actOf (σ : NVar → Rat) (v : NVar) : Bool := decide (σ v = 1)

theorem bin_eq_b2r {x : Rat} (h : IsBin x) : x = b2r (decide (x = 1)) := h.eq_ite decide_eq_true_iff.symm

theorem b2r_and (a b : Bool) : b2r (a && b) = if a = true ∧ b = true then 1 else 0 := by
  cases a <;> cases b <;> rfl

theorem bin_mul_b2r {x y : Rat} (hx : IsBin x) (hy : IsBin y) :
    x * y = b2r (decide (x = 1) && decide (y = 1)) := by
  rw [hx.mul_eq_ite hy, b2r_and]
  simp only [decide_eq_true_iff]

theorem bin_sub_mul_b2r {x y : Rat} (hx : IsBin x) (hy : IsBin y) :
    x - x * y = b2r (decide (x = 1) && !decide (y = 1)) := by
  rw [hx.sub_mul_eq_ite hy]
  rcases hx with rfl | rfl <;> rcases hy with rfl | rfl <;> decide

theorem minor_products_exact_N (I : MinorInst) (σ : NVar → Rat) (h : I.build.Sat σ) (cs : MinorCand × MSlot)
    (hcs : cs ∈ I.slots) (m : Mut) (hm : m ∈ I.newMuts cs.1) :
    (σ (.MULN m cs.2) = 1 ↔ σ (.A cs.2) = 1 ∧ σ (.N m cs.2) = 1) := by
  have hf := sat_iff.mp h
  rw [hf.mulN cs hcs m hm]
  exact (hf.binA cs hcs).mul_eq_one (hf.binN cs hcs m hm)

section Terms
variable (I : MinorInst) (σ : NVar → Rat) (h : I.build.Sat σ)
  (hdef : ∀ cs ∈ I.slots, ∀ m ∈ cs.1.defMuts, m ∈ I.mutations)
include h hdef

theorem mulk_value (cs : MinorCand × MSlot) (hcs : cs ∈ I.slots) (m : Mut) (hm : m ∈ cs.1.defMuts) :
    σ (.MULK m cs.2) = b2r (actOf σ (.A cs.2) && actOf σ (.K m cs.2)) := by
  have hf := sat_iff.mp h
  rw [hf.mulK cs hcs m hm (hdef cs hcs m hm)]
  exact bin_mul_b2r (hf.binA cs hcs) (hf.binK cs hcs m hm)

omit hdef in
theorem muln_value (cs : MinorCand × MSlot) (hcs : cs ∈ I.slots) (m : Mut) (hm : m ∈ I.newMuts cs.1) :
    σ (.MULN m cs.2) = b2r (actOf σ (.A cs.2) && actOf σ (.N m cs.2)) := by
  have hf := sat_iff.mp h
  rw [hf.mulN cs hcs m hm]
  exact bin_mul_b2r (hf.binA cs hcs) (hf.binN cs hcs m hm)

theorem varTerms_value (m : Mut) (hm : m ∈ I.mutations) :
    evalTerms σ (I.varTerms m) = I.carriedBy (actOf σ) m := by
  unfold MinorInst.varTerms MinorInst.carriedBy MinorInst.carriesB
  rw [evalTerms_filterMap_sum]
  refine sum_map_congr _ _ _ fun cs hcs => ?_
  split_ifs with h1 h2
  · exact (one_mul _).trans (mulk_value I σ h hdef cs hcs m (List.contains_iff_mem.mp h1))
  · rw [h2, Bool.true_and]
    exact (one_mul _).trans (muln_value I σ h cs hcs m
      (mem_newMuts.mpr ⟨hm, h2, fun hd => h1 (List.contains_iff_mem.mpr hd)⟩))
  · rw [Bool.not_eq_true] at h2
    rw [h2, Bool.false_and, Bool.and_false]
    rfl

theorem refTerms_value (pos : Int) : evalTerms σ (I.refTerms pos) = I.refBy (actOf σ) pos := by
  unfold MinorInst.refTerms MinorInst.refBy
  rw [evalTerms_flatMap_sum]
  refine sum_map_congr _ _ _ fun cs hcs => ?_
  have hA : σ (.A cs.2) = b2r (actOf σ (.A cs.2)) := bin_eq_b2r ((sat_iff.mp h).binA cs hcs)
  have hnew : evalTerms σ ((I.newAt cs.1 pos).map fun m => MinorInst.neg (.MULN m cs.2)) =
      -((I.newAt cs.1 pos).map fun m => b2r (actOf σ (.A cs.2) && actOf σ (.N m cs.2))).sum := by
    rw [evalTerms_map_sum, ← neg_one_mul, ← sum_map_mul_left]
    exact sum_map_congr _ _ _ fun m hm => congrArg _ (muln_value I σ h cs hcs m (List.mem_filter.mp hm).1)
  split_ifs
  · rfl
  · cases hp : presentAt cs.1 pos with
    | nil =>
      rw [evalTerms_cons, hnew, ← hA]
      simp only [MinorInst.one, one_mul]
      ring
    | cons p ps =>
      have hpm : p ∈ cs.1.defMuts := (List.mem_filter.mp (hp ▸ List.mem_cons_self : p ∈ presentAt cs.1 pos)).1
      rw [evalTerms_append, evalTerms_cons, evalTerms_cons, evalTerms_nil, hnew, ← hA]
      simp only [MinorInst.one, MinorInst.neg, one_mul, mulk_value I σ h hdef cs hcs p hpm]
      ring

end Terms

theorem minor_score_is_spec_plus_slack (I : MinorInst) (σ : NVar → Rat) (h : I.build.Sat σ)
    (hdef : ∀ cs ∈ I.slots, ∀ m ∈ cs.1.defMuts, m ∈ I.mutations) :
    I.build.objective σ =
      I.specMinor (actOf σ) + (I.errRows.map fun m => σ (.ABS m) - |σ (.E m)|).sum := by
  have hf := sat_iff.mp h
  rw [minor_score_closed_form I σ]
  unfold MinorInst.specMinor
  -- rows: helper = |error| + slack, and the error is observed minus carried
  have rows : (I.errRows.map fun m => σ (.ABS m)).sum =
      (I.mutations.map fun m => absM (I.observed m - I.carriedBy (actOf σ) m)).sum +
      (I.positions.map fun pos => absM (I.observed (refMut' pos) - I.refBy (actOf σ) pos)).sum +
      (I.errRows.map fun m => σ (.ABS m) - |σ (.E m)|).sum := by
    rw [← sub_eq_iff_eq_add, sum_sub_sum, sum_errRows]
    refine congrArg₂ (· + ·) (sum_map_congr _ _ _ fun m hm => ?_) (sum_map_congr _ _ _ fun pos hp => ?_)
    · rw [sub_sub_cancel, absM_eq_abs, ← varTerms_value I σ h hdef m hm, hf.errVar m hm]
    · rw [sub_sub_cancel, absM_eq_abs, ← refTerms_value I σ h hdef pos, hf.errRef pos hp]
  have miss : (I.slots.map fun cs => (cs.1.defMuts.map fun m => σ (.A cs.2) - σ (.MULK m cs.2)).sum) =
      I.slots.map fun cs => (cs.1.defMuts.map fun m => b2r (actOf σ (.A cs.2) && !actOf σ (.K m cs.2))).sum := by
    refine List.map_congr_left fun cs hcs => congrArg List.sum (List.map_congr_left fun m hm => ?_)
    rw [hf.mulK cs hcs m hm (hdef cs hcs m hm)]
    exact bin_sub_mul_b2r (hf.binA cs hcs) (hf.binK cs hcs m hm)
  have add : (I.newSelectors.zipIdx.map fun e =>
        I.minorAdd * (1 + (e.2 : Rat) / Const.MINOR_TIEBREAK_DIV) * σ (.N e.1.1 e.1.2)) =
      I.newSelectors.zipIdx.map fun e =>
        I.minorAdd * (1 + (e.2 : Rat) / Const.MINOR_TIEBREAK_DIV) * b2r (actOf σ (.N e.1.1 e.1.2)) :=
    List.map_congr_left fun e he => congrArg _ (bin_eq_b2r (hf.binNew (List.fst_mem_of_mem_zipIdx he)))
  have novel : sumVars σ (I.novelMuts.map NVar.VNEWOR) =
      ((I.novelMuts.filter fun m => (I.novelCoreSel m).any (actOf σ)).length : Rat) := by
    rw [sumVars_eq_count σ _ (List.forall_mem_map.mpr hf.binVNEWOR), List.filter_map, List.length_map]
    refine congrArg (fun l : List Mut => (l.length : Rat)) (List.filter_congr fun m hm => ?_)
    rw [Function.comp_apply, Bool.eq_iff_iff, decide_eq_true_eq, hf.novel m hm, List.any_eq_true]
    simp only [actOf, decide_eq_true_eq]
  have phase : (I.phaseCells.map fun c => (c.cnt : Rat) *
        (((c.pos.zipIdx).map fun vi => σ (.PH c.ai c.ri) - σ (.PH2 c.ai c.ri vi.2)).sum +
         ((c.neg.zipIdx).map fun vi => σ (.PH3 c.ai c.ri vi.2)).sum)) =
      I.phaseCells.map fun c => (c.cnt : Rat) *
        (((c.pos.zipIdx).map fun vi => b2r (actOf σ (.PH c.ai c.ri) && !actOf σ vi.1)).sum +
         ((c.neg.zipIdx).map fun vi => b2r (actOf σ (.PH c.ai c.ri) && actOf σ vi.1)).sum) := by
    refine List.map_congr_left fun c hc => ?_
    obtain ⟨bPos, bNeg⟩ := phaseCell_bin hf.binK hf.binN hc
    rw [List.map_congr_left fun vi hvi => (congrArg _ (hf.mulPos c hc vi hvi)).trans
        (bin_sub_mul_b2r (hf.binPH c hc) (bPos vi hvi)),
      List.map_congr_left fun vi hvi => (hf.mulNeg c hc vi hvi).trans (bin_mul_b2r (hf.binPH c hc) (bNeg vi hvi))]
    rfl
  rw [rows, miss, add, novel, phase]
  ring

/-- **minor_optimum_score_is_spec** the objective of any optimum of the refinement model is the
documented objective of the assignment it reports, computed from that assignment alone -/
theorem minor_optimum_score_is_spec (I : MinorInst) (σ : NVar → Rat) (h : I.build.Sat σ)
    (hopt : ∀ τ, I.build.Sat τ → I.build.objective σ ≤ I.build.objective τ)
    (hdef : ∀ cs ∈ I.slots, ∀ m ∈ cs.1.defMuts, m ∈ I.mutations) :
    I.build.objective σ = I.specMinor (actOf σ) := by
  rw [minor_score_is_spec_plus_slack I σ h hdef,
    sum_map_zero _ _ fun m hm => sub_eq_zero.mpr (minor_optimum_abs_tight I σ h hopt m hm), add_zero]

/-- **planted_minor_optimum_spec_zero** with zero-error evidence (clauses `PlantedMinor`, Props/C01Minor) every
optimum of the refinement model reports an assignment of documented objective 0 -/
theorem planted_minor_optimum_spec_zero (I : MinorInst) (copies : String → String → Nat) (choose : Nat → Option Nat)
    (hP : PlantedMinor I copies choose) (σ : NVar → Rat) (h : I.build.Sat σ)
    (hopt : ∀ τ, I.build.Sat τ → I.build.objective σ ≤ I.build.objective τ)
    (hmiss : 0 ≤ I.minorMiss) (hadd : 0 ≤ I.minorAdd) (hph : 0 ≤ I.minorPhase)
    (hdef : ∀ cs ∈ I.slots, ∀ m ∈ cs.1.defMuts, m ∈ I.mutations) :
    I.build.objective σ = 0 ∧ I.specMinor (actOf σ) = 0 := by
  obtain ⟨hs, h0⟩ := planted_minor_zero I copies choose hP
  have hle : I.build.objective σ ≤ 0 := h0 ▸ hopt _ hs
  have hge := minor_objective_nonneg I σ h hmiss hadd hph hdef
  have e : I.build.objective σ = 0 := le_antisymm hle hge
  exact ⟨e, by rw [← minor_optimum_score_is_spec I σ h hopt hdef, e]⟩

end Aldy
