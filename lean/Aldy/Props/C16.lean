import Aldy.Model.VcfIn

/-!
# C16 — VCF genotypes are turned into matching evidence

Of the bookkeeping of `_load_vcf` only the records that change nothing (`vcfRecordStep` on a
non-diploid or matching 0/0 record) and the file without records (`loadVcf l []`) are theorems; a
record with an alternate allele is followed through by `example` and decided by the correspondence.
-/

namespace Aldy

/-- two alternate copies use up exactly the reference pseudo-reads of a site (regenerated constants) -/
theorem vcf_pseudo_read_numbers : Const.VCF_REF_READS = 2 * Const.VCF_ALT_READS := by decide

/-- alleles of a record shape that cannot be expressed are skipped, not stored (regenerated
from the skip test of `_load_vcf`) -/
theorem vcf_ignored_shapes_do_not_fail : Const.VCF_SKIPS_NONE = true := by decide

/-- **vcf_absent_is_homref** without records every position of the locus carries the full
reference support and no variant support. -/
theorem vcf_absent_is_homref (l : LocusV) :
    (loadVcf l []).muts = [] ∧ ∀ e ∈ (loadVcf l []).norm, e.2 = Const.VCF_REF_READS := by
  constructor
  · rfl
  · intro e he
    simp only [loadVcf, List.foldl_nil, List.mem_map] at he
    obtain ⟨i, _, rfl⟩ := he
    rfl

/-- **vcf_nondiploid_ignored** a record whose genotype does not have exactly two called alleles
(missing, haploid, polyploid) changes nothing. -/
theorem vcf_nondiploid_ignored (l : LocusV) (s : VcfState) (r : VcfRecord)
    (h : (r.gt.filterMap id).length ≠ 2) : vcfRecordStep l s r = s := by
  unfold vcfRecordStep
  have : ((r.gt.filterMap id).length != 2) = true := by simpa using h
  simp [this]

/-- **vcf_homref_record** a record called 0/0 whose REF matches the reference changes nothing
(loci without multi-substitution sites). -/
theorem vcf_homref_record (l : LocusV) (hm : l.multiSites = []) (s : VcfState) (r : VcfRecord)
    (hgt : r.gt = [some 0, some 0]) (href : ¬ (r.ref.length == 1 && r.ref.head? != some (l.base r.pos0)) = true) :
    vcfRecordStep l s r = s := by
  unfold vcfRecordStep
  rw [hgt, hm, if_neg href]
  -- what is left evaluates: allele 0 is `(r.pos0, some "_")`, which the fold over the genotype skips
  exact ite_self s

/-- What a record allele becomes (`get_mut`): a single-base change is a substitution
spelled against the *reference* base (or the reference marker when it equals it); a pure
deletion / insertion is anchored after the common prefix. -/
theorem vcf_snp_conversion (l : LocusV) (pos : Int) (r a : Char) (h : a ≠ l.base pos) (hra : r ≠ a) :
    getMut l pos [r] [a] = (pos, some (strOf [l.base pos, '>', a])) := by
  have hc : commonPrefix [r] [a] = 0 := by simp [commonPrefix, hra]
  simp [getMut, hc, h]

theorem vcf_same_as_reference (l : LocusV) (pos : Int) (r : Char) (hr : r ≠ l.base pos) :
    getMut l pos [r] [l.base pos] = (pos, some "_") := by
  have hc : commonPrefix [r] [l.base pos] = 0 := by simp [commonPrefix, hr]
  simp [getMut, hc]

theorem vcf_deletion_conversion (l : LocusV) (pos : Int) (a : Char) (d : List Char) (hd : d ≠ []) :
    getMut l pos (a :: d) [a] = (pos + 1, some ("del" ++ strOf (l.slice (pos + 1) d.length))) := by
  obtain ⟨x, xs, rfl⟩ := List.exists_cons_of_ne_nil hd
  have hc : commonPrefix (a :: x :: xs) [a] = 1 := by simp [commonPrefix]
  simp [getMut, hc]

theorem vcf_insertion_conversion (l : LocusV) (pos : Int) (a : Char) (x : List Char) (hx : x ≠ []) :
    getMut l pos [a] (a :: x) = (pos + 1, some ("ins" ++ strOf x)) := by
  obtain ⟨y, ys, rfl⟩ := List.exists_cons_of_ne_nil hx
  have hc : commonPrefix [a] (a :: y :: ys) = 1 := by simp [commonPrefix]
  simp [getMut, hc]

/-- a same-length multi-base pair is an ignored shape -/
theorem vcf_mnp_record_ignored (l : LocusV) (pos : Int) (a b c d : Char) (h1 : a ≠ c) :
    (getMut l pos [a, b] [c, d]).2 = none := by
  have hc : commonPrefix [a, b] [c, d] = 0 := by simp [commonPrefix, h1]
  simp [getMut, hc]

def exVLocus : LocusV :=
  { lookupStart := 100, lookupSeq := "ACGTACGTAC".toList.toArray, mapped := [(100, 110)], phaseable := [],
    multiSites := [], wide := (100, 110) }
example : (loadVcf exVLocus [⟨102, ['G'], [['T']], [some 0, some 1]⟩]).muts = [(⟨102, "G>T"⟩, 10)] := by decide +kernel
example : (loadVcf exVLocus [⟨102, ['G'], [['T']], [some 1, some 1]⟩]).muts = [(⟨102, "G>T"⟩, 20)] := by decide +kernel
example : ((loadVcf exVLocus [⟨102, ['G'], [['T']], [some 1, some 1]⟩]).norm.lookup 102) = some 0 := by decide +kernel
example : (loadVcf exVLocus [⟨102, ['G', 'T'], [['G']], [some 0, some 1]⟩]).muts = [(⟨103, "delT"⟩, 10)] := by decide +kernel
end Aldy
