import Aldy.Model.Writers
import Aldy.Lemmas.SortStable
import Mathlib.Data.List.Dedup

/-!
# C12 — result files state exactly the reported solutions

`write_decomposition`: the read-back `parseRows` is run by the driver, not proved.  `write_vcf`:
the model is the writer *as written*; the property's GT clause is proved under the hypotheses that
make it true (`vcf_gt_partial`) and refuted in general by closed counter-examples
(`vcf_gt_counterexample_*`), which the harness replays on the implementation (known findings).
-/

namespace Aldy

theorem dedupM_eq_dedup (l : List Mut) : dedupM l = l.dedup := by
  fun_induction dedupM l with
  | case1 => rfl
  | case2 y ys h ih => rw [ih, List.dedup_cons_of_mem h]
  | case3 y ys h ih => rw [ih, List.dedup_cons_of_notMem h]

theorem mem_sortDedup (x : Mut) (l : List Mut) : x ∈ sortDedup l ↔ x ∈ l := by
  rw [sortDedup, mem_sortStable, dedupM_eq_dedup]
  exact List.mem_dedup

theorem sortDedup_nodup (l : List Mut) : (sortDedup l).Nodup :=
  (sortStable_perm Mut.lt (dedupM l)).nodup_iff.mpr (dedupM_eq_dedup l ▸ List.nodup_dedup l)

/-- **carried_exact** the variants a copy is listed with are exactly
definition ∪ added − missing, each once. -/
theorem carried_exact (c : CopyV) (m : Mut) :
    (m ∈ c.carried ↔ (m ∈ c.defMuts ∨ m ∈ c.added) ∧ m ∉ c.missing) ∧ c.carried.Nodup := by
  unfold CopyV.carried
  refine ⟨?_, sortDedup_nodup _⟩
  rw [mem_sortDedup]
  simp only [List.mem_filter, List.mem_append, decide_eq_true_eq]

/-- **decomp_rows_exact** the block of rows written for copy `i` of a solution: one empty row
when the copy carries nothing, otherwise one row per carried variant, in sorted order. -/
theorem decomp_rows_exact (sample gene : String) (solId : Nat) (tab : List MutText) (s : SolV) :
    decompRows sample gene solId tab s =
      (s.copies.zipIdx).flatMap fun ci =>
        if ci.1.carried.isEmpty then
          [[sample, gene, toString solId, s.diplotype,
            String.intercalate ";" ((s.copies.map (·.minor)).filter (· != "")), toString ci.2, ci.1.minor,
            "", "", "", "", "", "", ""]]
        else ci.1.carried.map fun m =>
          [sample, gene, toString solId, s.diplotype,
           String.intercalate ";" ((s.copies.map (·.minor)).filter (· != "")), toString ci.2, ci.1.minor,
           toString m.pos, m.op, (textOf tab m).cov, (textOf tab m).effect, (textOf tab m).rsid, ""] := rfl

/-- every row of the decomposition names a copy of the solution and a variant it carries
(or is that copy's single empty row) -/
theorem decomp_row_sound (sample gene : String) (solId : Nat) (tab : List MutText) (s : SolV)
    (row : List String) (h : row ∈ decompRows sample gene solId tab s) :
    ∃ ci ∈ s.copies.zipIdx, row.getD 5 "" = toString ci.2 ∧ row.getD 6 "" = ci.1.minor ∧
      ((ci.1.carried = [] ∧ row.getD 7 "" = "") ∨
       ∃ m ∈ ci.1.carried, row.getD 7 "" = toString m.pos ∧ row.getD 8 "" = m.op) := by
  obtain ⟨ci, hci, hrow⟩ := List.mem_flatMap.mp h
  refine ⟨ci, hci, ?_⟩
  dsimp only at hrow
  split at hrow
  · next he =>
    cases List.mem_singleton.mp hrow
    exact ⟨rfl, rfl, Or.inl ⟨List.isEmpty_iff.mp he, rfl⟩⟩
  · obtain ⟨m, hm, rfl⟩ := List.mem_map.mp hrow
    exact ⟨rfl, rfl, Or.inr ⟨m, hm, rfl, rfl⟩⟩

/-- every carried variant of every copy has its row -/
theorem decomp_row_complete (sample gene : String) (solId : Nat) (tab : List MutText) (s : SolV)
    (ci : CopyV × Nat) (hci : ci ∈ s.copies.zipIdx) (m : Mut) (hm : m ∈ ci.1.carried) :
    ∃ row ∈ decompRows sample gene solId tab s, row.getD 5 "" = toString ci.2 ∧
      row.getD 7 "" = toString m.pos ∧ row.getD 8 "" = m.op := by
  have hne : ci.1.carried.isEmpty = false := List.isEmpty_eq_false_iff.mpr (List.ne_nil_of_mem hm)
  have hrow : _ ∈ decompRows sample gene solId tab s := List.mem_flatMap.mpr ⟨ci, hci, by
    dsimp only
    rw [hne, if_neg Bool.false_ne_true]
    exact List.mem_map_of_mem hm⟩
  exact ⟨_, hrow, rfl, rfl, rfl⟩

theorem marked_eq_carried (c : CopyV) (h : c.missing = []) : c.marked = c.carried := by
  simp only [CopyV.marked, CopyV.carried, h, List.not_mem_nil, not_false_eq_true, decide_true, List.filter_true]

theorem vcfCell_eq_any (sols : List SolV) (hmiss : ∀ s ∈ sols, ∀ c ∈ s.copies, c.missing = []) (m : Mut) (i : Nat) :
    vcfCell sols m i = sols.any fun s => vcfCellSpec s m i := by
  have one : ∀ s ∈ sols, (match s.copies[i]? with | some c => decide (m ∈ c.marked) | none => false) = vcfCellSpec s m i := by
    intro s hs
    unfold vcfCellSpec
    cases h : s.copies[i]? with
    | none => rfl
    | some c => exact congrArg (fun l => decide (m ∈ l)) (marked_eq_carried c (hmiss s hs c (List.mem_of_getElem? h)))
  rw [vcfCell, Bool.eq_iff_iff, List.any_eq_true, List.any_eq_true]
  exact exists_congr fun s => and_congr_right fun hs => (one s hs ▸ Iff.rfl)

/-- **vcf_gt_partial** with a single reported solution none of whose copies lost a variant,
the genotype cell of copy `i` is 1 exactly if that copy is reported to carry the variant. -/
theorem vcf_gt_partial (s : SolV) (hmiss : ∀ c ∈ s.copies, c.missing = []) (m : Mut) (i : Nat) :
    vcfCell [s] m i = vcfCellSpec s m i := by
  rw [vcfCell_eq_any [s] (fun s' hs' => List.mem_singleton.mp hs' ▸ hmiss), List.any_cons, List.any_nil, Bool.or_false]

/-- the same holds for any number of solutions that are identical copy for copy -/
theorem vcf_gt_partial_identical (s : SolV) (n : Nat) (hmiss : ∀ c ∈ s.copies, c.missing = [])
    (m : Mut) (i : Nat) : vcfCell (List.replicate (n + 1) s) m i = vcfCellSpec s m i := by
  rw [vcfCell_eq_any _ (fun s' hs' => List.eq_of_mem_replicate hs' ▸ hmiss), List.any_replicate,
    if_neg (Nat.succ_ne_zero n)]

/-- positions are one-based, and single-nucleotide substitutions are spelled REF>ALT -/
theorem vcf_snp_spelling (tab : List MutText) (sols : List SolV) (r : VcfRec) (h : r ∈ vcfRecords tab sols) :
    ∃ m ∈ vcfMuts sols, r.pos1 = m.pos + 1 ∧ (r.ref, r.alt) = vcfRefAlt m := by
  obtain ⟨m, hm, rfl⟩ := List.mem_map.mp h
  -- `with_reducible`: the pair of the two components of `vcfRefAlt m` is `vcfRefAlt m`; plain
  -- `rfl` unfolds `vcfRefAlt` first (slow to check)
  exact ⟨m, hm, rfl, by with_reducible rfl⟩

theorem vcf_snp_refalt (p : Int) (a b : Char) :
    vcfRefAlt ⟨p, String.ofList [a, '>', b]⟩ = (String.ofList [a], String.ofList [b]) := by
  simp [vcfRefAlt]

def cxA : CopyV := ⟨"2", "2.001", [⟨10, "A>G"⟩], [], []⟩
def cxB : CopyV := ⟨"1", "1.001", [], [], []⟩

/-- two solutions that differ: the column of the second shows the variant on a copy that
does not carry it -/
theorem vcf_gt_counterexample_shared_table :
    vcfCell [⟨[cxA, cxB], "*2/*1"⟩, ⟨[cxB, cxB], "*1/*1"⟩] ⟨10, "A>G"⟩ 0 = true ∧
    vcfCellSpec ⟨[cxB, cxB], "*1/*1"⟩ ⟨10, "A>G"⟩ 0 = false := by decide +kernel

/-- a lost variant is still written -/
theorem vcf_gt_counterexample_missing :
    vcfCell [⟨[⟨"2", "2.001", [⟨10, "A>G"⟩], [], [⟨10, "A>G"⟩]⟩], "*2"⟩] ⟨10, "A>G"⟩ 0 = true ∧
    vcfCellSpec ⟨[⟨"2", "2.001", [⟨10, "A>G"⟩], [], [⟨10, "A>G"⟩]⟩], "*2"⟩ ⟨10, "A>G"⟩ 0 = false := by decide +kernel

/-- REF of an insertion is the letter `i` -/
theorem vcf_indel_counterexample : vcfRefAlt ⟨10, "insTT"⟩ = ("i", "iTT") ∧ vcfRefAlt ⟨10, "delAC"⟩ = (".", "AC, .") := by
  decide +kernel

end Aldy
