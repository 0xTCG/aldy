import Aldy.Props.C02Spec
import Aldy.Model.Filters

/-!
# C01 — error-free reads from a catalogued genotype are called as that genotype

The pipeline is a composition; each link is a theorem about the model of one stage, and the
correspondence run (`harness/c01.py`) evaluates the hypotheses of the links on the real objects
of every simulated sample and compares the conclusion with what `genotype()` reports.  The links
about the refinement model are in Props/C01Minor; the best-score selection keeps every optimum
(C10 `select_best_kept`) and the enumeration reports every optimum up to supersets (C05).
-/

namespace Aldy
open MajorInst

/-- **observed_of_uniform** if `c` of the `n` copies present at a position carry the row and
every copy contributes `d` reads there, the observed copy number `cov / (total / n)` is `c` -/
theorem observed_of_uniform (d c n : Rat) (hd : 0 < d) (hn : 0 < n) :
    (d * c) / ((d * n) / n) = c := by
  rw [mul_div_cancel_right₀ d hn.ne', mul_div_cancel_left₀ c hd.ne']

/-- what it means for `k` (copies per candidate allele) to be a zero-error explanation of the
evidence of instance `I` -/
structure Planted (I : MajorInst) (k : String → Nat) : Prop where
  fits : ∀ a ∈ I.alleles, k a.name ≤ max 1 (I.cn.count a.cnConfig)
  fills : ∀ cc ∈ I.cn.solution,
    ((I.alleles.filter fun a => a.cnConfig == cc.1).map fun a => (k a.name : Rat)).sum = (cc.2 : Rat)
  variants : ∀ m ∈ I.funcMuts,
    I.observed m = ((I.alleles.filter fun a => a.func.contains m).map fun a => (k a.name : Rat)).sum
  carried : ∀ m ∈ I.funcMuts, ∃ a ∈ I.alleles, a.func.contains m = true ∧ 0 < k a.name
  reference : ∀ pos ∈ I.positions,
    I.observed (refMut pos) =
      ((I.alleles.filter fun a =>
          I.gene.hasCoverage a.name pos && !(a.func.any fun ma => ma.pos == pos && !ma.isIns)).map
        fun a => (k a.name : Rat)).sum

theorem planted_N (I : MajorInst) (k : String → Nat) (m : Mut) : plantedσ I k (.N m) = 0 := rfl
theorem planted_E (I : MajorInst) (k : String → Nat) (m : Mut) : plantedσ I k (.E m) = 0 := rfl
theorem planted_ABS (I : MajorInst) (k : String → Nat) (m : Mut) : plantedσ I k (.ABS m) = 0 := rfl
theorem planted_NOVEL (I : MajorInst) (k : String → Nat) : plantedσ I k .NOVEL = 0 := rfl
theorem planted_XOR (I : MajorInst) (k : String → Nat) (m : Mut) : plantedσ I k (.XOR m) = 1 := rfl

theorem planted_carried (I : MajorInst) (k : String → Nat) (hP : Planted I k) (m : Mut) (hm : m ∈ I.funcMuts) :
    carriedB I k m = true := by
  obtain ⟨a, ha, hc, hk⟩ := hP.carried m hm
  exact List.any_eq_true.mpr ⟨a, ha, by rw [hc, decide_eq_true hk]; rfl⟩

theorem planted_novel_empty (I : MajorInst) (k : String → Nat) (hP : Planted I k) : I.novelOf k = [] :=
  List.filter_eq_nil_iff.mpr fun m hm => by rw [planted_carried I k hP m hm]; exact Bool.false_ne_true

/-- **planted_admissible** -/
theorem planted_admissible (I : MajorInst) (k : String → Nat) (hP : Planted I k) : Admissible I k :=
  -- `Planted` writes out the sums that `Admissible`, `carriersCount` and `refCount` spell `plantedSum`
  ⟨hP.fits, hP.fills, fun pos _ => by rw [planted_novel_empty I k hP]; exact Nat.zero_le 1⟩

theorem planted_determined (I : MajorInst) (k : String → Nat) (hP : Planted I k) : Determined I (plantedσ I k) k where
  flagOR _ _ := rfl
  flagXOR m _ := planted_XOR I k m
  flagN m hm := by rw [planted_carried I k hP m hm]; rfl
  flagNOVEL := by rw [planted_novel_empty I k hP]; rfl
  errVar m hm := by
    rw [planted_carried I k hP m hm, hP.variants m hm, if_pos rfl, add_zero]
    exact (sub_self _).symm
  errRef pos hp := by rw [hP.reference pos hp]; exact (sub_self _).symm
  abs _ _ := abs_zero.le

/-- **planted_major_feasible** a zero-error explanation of the evidence is a feasible point of
the model `solve_major_model` builds, with objective 0 -/
theorem planted_major_feasible (I : MajorInst) (k : String → Nat) (hP : Planted I k) :
    I.build.Sat (plantedσ I k) ∧ I.build.objective (plantedσ I k) = 0 := by
  refine ⟨(sat_iff_of_selects (plantedσ_selects I k) hP.fits).mpr
    ⟨planted_admissible I k hP, planted_determined I k hP⟩, ?_⟩
  rw [objective_eq, ← sumVars_map,
    sumVars_zero_of_all_zero _ (I.errRows.map MVar.ABS) (List.forall_mem_map.mpr fun m _ => planted_ABS I k m),
    sumVars_zero_of_all_zero _ (I.funcMuts.map MVar.N) (List.forall_mem_map.mpr fun m _ => planted_N I k m),
    planted_NOVEL, mul_zero, mul_zero, add_zero, add_zero]

/-- **major_objective_nonneg** -/
theorem major_objective_nonneg (I : MajorInst) (σ : MVar → Rat) (h : I.build.Sat σ) (hn : 0 ≤ I.majorNovel) :
    0 ≤ I.build.objective σ := by
  obtain ⟨hA, hB, hle⟩ := (sat_iff.mp h).objective_ge hn
  exact (add_nonneg hA hB).trans hle

/-- **major_zero_objective_exact** a feasible point that scores 0 calls every variant row on exactly
the observed number of carriers, every reference row on the observed number of reference copies, and
flags no variant as novel: nothing is added and nothing is lost -/
theorem major_zero_objective_exact (I : MajorInst) (σ : MVar → Rat) (h : I.build.Sat σ) (hn : 0 ≤ I.majorNovel)
    (h0 : I.build.objective σ ≤ 0) :
    (∀ m ∈ I.funcMuts, sumVars σ ((I.carriers m).map va) = I.observed m ∧ σ (.N m) = 0) ∧
    (∀ pos ∈ I.positions, sumVars σ ((I.refCarriers pos).map va) = I.observed (refMut pos)) := by
  have hf := sat_iff.mp h
  -- the row errors and the novel flags are non-negative and their weighted sum is at most 0: all vanish
  obtain ⟨hA, hB, hle⟩ := hf.objective_ge hn
  obtain ⟨hEv, hEr⟩ := forall_errRows.mp (sum_nonneg_eq_zero I.errRows (fun m => |σ (.E m)|)
    (fun _ _ => abs_nonneg _) ((le_add_of_nonneg_right hB).trans (hle.trans h0)))
  have hNz := sum_nonneg_eq_zero I.funcMuts (fun m => σ (.N m)) (fun m hm => (hf.binN m hm).nonneg) (by
    rw [← sumVars_map]
    exact nonpos_of_mul_nonpos_right ((le_add_of_nonneg_left hA).trans (hle.trans h0)) major_novel_each_pos)
  refine ⟨fun m hm => ?_, fun pos hp => ?_⟩
  · have := hf.errVar m hm
    rw [abs_eq_zero.mp (hEv m hm), hNz m hm, add_zero, eq_comm, sub_eq_zero] at this
    exact ⟨this.symm, hNz m hm⟩
  · have := hf.errRef pos hp
    rw [abs_eq_zero.mp (hEr pos hp), eq_comm, sub_eq_zero] at this
    exact this.symm

/-- **planted_major_optimal** the planted multiset is an optimum of the major model -/
theorem planted_major_optimal (I : MajorInst) (k : String → Nat) (hP : Planted I k) (hn : 0 ≤ I.majorNovel)
    (τ : MVar → Rat) (hτ : I.build.Sat τ) : I.build.objective (plantedσ I k) ≤ I.build.objective τ := by
  rw [(planted_major_feasible I k hP).2]
  exact major_objective_nonneg I τ hτ hn

/-- **major_optima_carry_planted_variants** with zero-error evidence every optimum of the major
model calls, for every variant row, as many carriers as were planted (and as many reference
copies), and no novel variant: the called variants, counted with multiplicity, are the planted ones -/
theorem major_optima_carry_planted_variants (I : MajorInst) (k : String → Nat) (hP : Planted I k)
    (hn : 0 ≤ I.majorNovel) (σ : MVar → Rat) (h : I.build.Sat σ)
    (hopt : ∀ τ, I.build.Sat τ → I.build.objective σ ≤ I.build.objective τ) :
    (∀ m ∈ I.funcMuts,
        sumVars σ ((I.carriers m).map va) =
          ((I.alleles.filter fun a => a.func.contains m).map fun a => (k a.name : Rat)).sum ∧ σ (.N m) = 0) ∧
    (∀ pos ∈ I.positions,
        sumVars σ ((I.refCarriers pos).map va) =
          ((I.alleles.filter fun a =>
              I.gene.hasCoverage a.name pos && !(a.func.any fun ma => ma.pos == pos && !ma.isIns)).map
            fun a => (k a.name : Rat)).sum) := by
  obtain ⟨hsat, hobj⟩ := planted_major_feasible I k hP
  obtain ⟨hv, hr⟩ := major_zero_objective_exact I σ h hn (hobj ▸ hopt _ hsat)
  exact ⟨fun m hm => hP.variants m hm ▸ hv m hm, fun pos hp => hP.reference pos hp ▸ hr pos hp⟩

/-- the region test of the minor-stage evidence filter exempts the reference marker and the
deleted-base marker (regenerated from `default_filter_fn`); without the latter the reads of a
deletion-carrying copy vanish from the depth of a non-exonic deletion site and the reference row
counts the carriers as reference copies -/
theorem minor_filter_depth_markers : "_" ∈ Const.MINOR_FILTER_DEPTH_OPS ∧ "-" ∈ Const.MINOR_FILTER_DEPTH_OPS := by
  decide

/-- **minor_filter_keeps_deleted_bases** whatever the region and whatever variants are considered,
a deleted-base observation is subject to the depth thresholds only -/
theorem minor_filter_keeps_deleted_bases (g : GeneView) (p : ProfileV) (s : CNSol) (considered : List Mut) (c : Cov) (pos : Int) :
    minorFilterFn g p s considered c ⟨pos, "-"⟩ =
      .keep (c.basicFilter p ⟨pos, "-"⟩ (some p.cnMax) none &&
             c.basicFilter p ⟨pos, "-"⟩ (some ((s.positionCn g pos : Rat) + Const.MINOR_FILTER_CN_ADD)) none) := by
  have h1 : Const.MINOR_FILTER_DEPTH_OPS.contains "-" = true := by decide
  have h2 : (("-" : String) != "_") = true := by decide
  simp only [minorFilterFn, h1, h2, Bool.not_true, Bool.false_and, Bool.false_eq_true, if_false, if_true]

/-- **plantedB_iff** the boolean the driver evaluates on the real stage inputs of a simulated
sample is exactly the hypothesis `Planted` of the theorems above -/
theorem plantedB_iff (I : MajorInst) (k : String → Nat) : plantedB I k = true ↔ Planted I k := by
  simp only [plantedB, plantedClauses, List.all_cons, List.all_nil, Bool.and_true, Bool.and_eq_true,
    List.all_eq_true, List.any_eq_true, decide_eq_true_eq]
  exact ⟨fun ⟨h1, h2, h3, h4, h5⟩ => ⟨h1, h2, h3, h4, h5⟩,
    fun h => ⟨h.fits, h.fills, h.variants, h.carried, h.reference⟩⟩

/-! ### non-vacuity: the example instance of C02 is planted by one copy of each allele -/

def exK : String → Nat := fun a => if a == "1" then 1 else if a == "2" then 1 else 0

theorem exK_planted : Planted exInst exK := (plantedB_iff exInst exK).mp (by decide +kernel)

example : Planted exInst exK := exK_planted

example : exInst.build.objective (plantedσ exInst exK) = 0 := (planted_major_feasible exInst exK exK_planted).2

end Aldy
