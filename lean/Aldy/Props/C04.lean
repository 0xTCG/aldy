import Aldy.Lemmas.Minor

/-!
# C04 — minor-allele refinement preserves the major call and is optimal

Theorems about `MinorInst.build` (model of `solve_minor_model`'s construction) for every
instance and every feasible point `σ`, read off the record `Feasible` of `Lemmas/Minor.lean`, whose
fields name the constraints and the numbered rules of the source.
-/

namespace Aldy
open MinorInst

def countOnesN (σ : NVar → Rat) (vs : List NVar) : Nat := (vs.filter fun v => decide (σ v = 1)).length

/-- **minor_one_per_copy** for every called major allele exactly as many minor-allele copies of
that same major allele are selected as the major solution has copies of it. -/
theorem minor_one_per_copy (I : MinorInst) (σ : NVar → Rat) (h : I.build.Sat σ)
    (mc : String × Nat) (hmc : mc ∈ I.majorSol) :
    countOnesN σ ((I.slots.filter fun cs => cs.1.major == mc.1).map fun cs => NVar.A cs.2) = mc.2 := by
  have hf := sat_iff.mp h
  have hsum := hf.fill mc hmc
  rw [sumVars_eq_count σ _ (List.forall_mem_map.mpr fun cs hcs => hf.binA cs (List.mem_filter.mp hcs).1)] at hsum
  exact_mod_cast hsum

/-- **minor_total_copies** no more copies are selected in total than the major solution has. -/
theorem minor_total_copies (I : MinorInst) (σ : NVar → Rat) (h : I.build.Sat σ) :
    countOnesN σ (I.slots.map fun cs => NVar.A cs.2) ≤ (I.majorSol.map (·.2)).sum := by
  have hf := sat_iff.mp h
  have hle := hf.total
  rw [sumVars_eq_count σ _ (List.forall_mem_map.mpr hf.binA)] at hle
  exact_mod_cast hle

/-- **minor_core_kept** a selected allele keeps every core (function-altering) variant of its
definition (rule 2). -/
theorem minor_core_kept (I : MinorInst) (σ : NVar → Rat) (h : I.build.Sat σ) (cs : MinorCand × MSlot)
    (hcs : cs ∈ I.slots) (m : Mut) (hm : m ∈ cs.1.defMuts) (hf : I.gene.isFunctional m = true) :
    σ (.K m cs.2) = σ (.A cs.2) :=
  le_antisymm ((sat_iff.mp h).keepLe cs hcs m hm) ((sat_iff.mp h).coreKept cs hcs m hm hf)

/-- **minor_selectors_need_allele** keep/add selectors are only set for selected alleles (rule 1). -/
theorem minor_selectors_need_allele (I : MinorInst) (σ : NVar → Rat) (h : I.build.Sat σ) (cs : MinorCand × MSlot)
    (hcs : cs ∈ I.slots) :
    (∀ m ∈ cs.1.defMuts, σ (.K m cs.2) ≤ σ (.A cs.2)) ∧ (∀ m ∈ I.newMuts cs.1, σ (.N m cs.2) ≤ σ (.A cs.2)) :=
  ⟨(sat_iff.mp h).keepLe cs hcs, (sat_iff.mp h).addLe cs hcs⟩

/-- **minor_add_needs_copies** an add selector exists only where the allele's structure has gene
copies at the variant's position, and only for variants outside its definition. -/
theorem minor_add_needs_copies (I : MinorInst) (e : Mut × MSlot) (he : e ∈ I.newSelectors) :
    ∃ cs ∈ I.slots, cs.2 = e.2 ∧ I.hasCov cs.1 e.1.pos = true ∧ e.1 ∉ cs.1.defMuts ∧ e.1 ∈ I.mutations := by
  obtain ⟨cs, hcs, hn, h2⟩ := mem_newSelectors.mp he
  obtain ⟨hm, hcov, hd⟩ := mem_newMuts.mp hn
  exact ⟨cs, hcs, h2.symm, hcov, hd, hm⟩

/-- **minor_products_exact** -/
theorem minor_products_exact (I : MinorInst) (σ : NVar → Rat) (h : I.build.Sat σ) (cs : MinorCand × MSlot)
    (hcs : cs ∈ I.slots) (m : Mut) (hm : m ∈ cs.1.defMuts) (hmm : m ∈ I.mutations) :
    (σ (.MULK m cs.2) = 1 ↔ σ (.A cs.2) = 1 ∧ σ (.K m cs.2) = 1) := by
  have hf := sat_iff.mp h
  rw [hf.mulK cs hcs m hm hmm]
  exact (hf.binA cs hcs).mul_eq_one (hf.binK cs hcs m hm)

theorem minor_uncarried (I : MinorInst) (σ : NVar → Rat) (h : I.build.Sat σ) (m : Mut) (hm : m ∈ I.mutations)
    (hz : (I.cn.positionCn I.gene m.pos == 0 || I.cov.coverage m == 0) = true) :
    ∀ t ∈ I.carrierTerms m, σ t.2 = 0 := by
  have hf := sat_iff.mp h
  -- the carrier row is a sum of 0/1 products, and rule 5 bounds it by 0
  have key : ∀ t ∈ I.carrierTerms m, t.1 = 1 ∧ IsBin (σ t.2) := fun t ht => by
    obtain ⟨cs, hcs, ⟨hd, rfl⟩ | ⟨hn, rfl⟩⟩ := mem_carrierTerms ht
    · exact ⟨rfl, hf.binMULK cs hcs m hd⟩
    · exact ⟨rfl, hf.mulN cs hcs m hn ▸ (hf.binA cs hcs).mul (hf.binN cs hcs m hn)⟩
  intro t ht
  have := sum_nonneg_eq_zero (I.carrierTerms m) (fun t => t.1 * σ t.2)
    (fun t ht => by rw [(key t ht).1, one_mul]; exact (key t ht).2.nonneg) (hf.unsupported m hm hz) t ht
  rwa [(key t ht).1, one_mul] at this

/-- **minor_carried_has_reads** a considered variant without filtered read support, or at a
position where the structure has no copies, is carried by no allele. -/
theorem minor_carried_has_reads (I : MinorInst) (σ : NVar → Rat) (h : I.build.Sat σ) (m : Mut) (hm : m ∈ I.mutations)
    (hz : (I.cn.positionCn I.gene m.pos == 0 || I.cov.coverage m == 0) = true)
    (hbin : ∀ t ∈ I.carrierTerms m, IsBin (σ t.2)) (hone : ∀ t ∈ I.carrierTerms m, t.1 = 1) :
    ∀ t ∈ I.carrierTerms m, σ t.2 = 0 :=
  minor_uncarried I σ h m hm hz

/-- **minor_supported_is_carried** a considered variant with filtered read support at a position
with gene copies is carried by at least one allele, and by at most as many as it has reads. -/
theorem minor_supported_is_carried (I : MinorInst) (σ : NVar → Rat) (h : I.build.Sat σ) (m : Mut) (hm : m ∈ I.mutations)
    (hz : (I.cn.positionCn I.gene m.pos == 0 || I.cov.coverage m == 0) = false) :
    1 ≤ evalTerms σ (I.carrierTerms m) ∧ evalTerms σ (I.carrierTerms m) ≤ I.cov.coverage m :=
  (sat_iff.mp h).supported m hm hz

/-- **minor_one_per_site** in a feasible point no allele carries two variants at one position. -/
theorem minor_one_per_site (I : MinorInst) (σ : NVar → Rat) (h : I.build.Sat σ) (pos : Int) (hp : pos ∈ I.positions)
    (cs : MinorCand × MSlot) (hcs : cs ∈ I.slots)
    (hmany : ((I.addAt cs.1 pos).map fun m => MinorInst.one (NVar.MULN m cs.2)).length +
             ((keptAt cs.1 pos).map fun m => MinorInst.one (NVar.MULK m cs.2)).length > 1) :
    evalTerms σ (((keptAt cs.1 pos).map fun m => MinorInst.one (.MULK m cs.2)) ++
                 ((I.addAt cs.1 pos).map fun m => MinorInst.one (.MULN m cs.2))) ≤ 1 := by
  rw [List.length_map, List.length_map] at hmany
  rw [evalTerms_append, evalTerms_map_one, evalTerms_map_one]
  exact (sat_iff.mp h).perSite pos hp cs hcs hmany

/-- **minor_error_rows** every coverage equation fixes its free error term, and the helper
dominates its absolute value. -/
theorem minor_error_rows (I : MinorInst) (σ : NVar → Rat) (h : I.build.Sat σ) (m : Mut) (hm : m ∈ I.mutations) :
    σ (.E m) = I.observed m - evalTerms σ (I.varTerms m) ∧ |σ (.E m)| ≤ σ (.ABS m) :=
  ⟨(sat_iff.mp h).errVar m hm, (forall_errRows.mp (sat_iff.mp h).abs).1 m hm⟩

theorem minor_ref_rows (I : MinorInst) (σ : NVar → Rat) (h : I.build.Sat σ) (pos : Int) (hp : pos ∈ I.positions) :
    σ (.E (refMut' pos)) = I.observed (refMut' pos) - evalTerms σ (I.refTerms pos) :=
  (sat_iff.mp h).errRef pos hp

/-- **readout_sound** every reported allele is a selected slot, its lost variants are
definition variants, its added variants are addable variants (outside the definition, with gene
copies at the position). -/
theorem readout_sound (I : MinorInst) (act : NVar → Bool) (c : CalledMinor) (hc : c ∈ readOut I act) :
    ∃ cs ∈ I.slots, act (.A cs.2) = true ∧ c.major = cs.1.major ∧ c.minor = cs.1.minor ∧
      (∀ m ∈ c.missing, m ∈ cs.1.defMuts ∧ act (.K m cs.2) = false) ∧
      (∀ m ∈ c.added, m ∈ I.newMuts cs.1) := by
  simp only [readOut, List.mem_filterMap] at hc
  obtain ⟨cs, hcs, hsome⟩ := hc
  by_cases ha : act (.A cs.2) = true
  · simp only [ha, Bool.not_true, Bool.false_eq_true, if_false, Option.some.injEq] at hsome
    subst hsome
    refine ⟨cs, hcs, ha, rfl, rfl, ?_, ?_⟩
    · intro m hm
      simp only [List.mem_filter, Bool.not_eq_true'] at hm
      exact hm
    · intro m hm
      exact (List.mem_filter.mp hm).1
  · simp [ha] at hsome

-- non-vacuity: one copy each of `1` and `2`, three candidate minor alleles: the model is not empty
def exMGene : GeneView :=
  { name := "G", regionNames := ["e1"], nGenes := 1, uniqueRegions := ["e1"],
    regionAt := [(10, (0, "e1")), (20, (0, "e1"))],
    mutations := [⟨⟨10, "A>G"⟩, true, "-"⟩, ⟨⟨20, "C>T"⟩, false, "-"⟩],
    alleles := [⟨"1", "1", [], [⟨"1.001", [], none⟩, ⟨"1.002", [⟨20, "C>T"⟩], none⟩]⟩,
      ⟨"2", "1", [⟨10, "A>G"⟩], [⟨"2.001", [], none⟩]⟩],
    cnConfigs := [⟨"1", .default, [[("e1", 1)]], []⟩] }
def exMInst : MinorInst :=
  { gene := exMGene
    cov := { table := [(10, [("_", [(60, 60), (60, 60)]), ("A>G", [(60, 60), (60, 60)])]),
                       (20, [("_", [(60, 60), (60, 60)]), ("C>T", [(60, 60), (60, 60)])])], indels := [] }
    cn := ⟨[("1", 2)]⟩, majorSol := [("1", 1), ("2", 1)],
    cands := [⟨"1", "1.001", []⟩, ⟨"1", "1.002", [⟨20, "C>T"⟩]⟩, ⟨"2", "2.001", [⟨10, "A>G"⟩]⟩],
    mutations := [⟨10, "A>G"⟩, ⟨20, "C>T"⟩], minorMiss := 3/2, minorAdd := 1, minorPhase := 2/5, phases := [] }
example : exMInst.slots.length = 3 := by decide +kernel
example : exMInst.build.cons.length > 30 := by decide +kernel

end Aldy
