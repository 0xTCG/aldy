import Aldy.Props.C15
import Aldy.Lemmas.Keyed

/-!
# C15 — low-quality reads are ignored: the whole filtered evidence table is unchanged

`qfilter_ignores_low` lifted to the object the stages read, `Coverage.filtered(quality_filter)`.
The hypotheses: positions pairwise different, as the keys of a dictionary are; the position already
in the table, which is the case `Cov.addLow` models (in the code a read at a new position creates a
site, and `filtered` keeps a site even when all its entries go, so there the filtered table does
change).  Every stage model is built from that object (structural ties of
C02 / C04), hence `major_model_ignores_low` is stated for any function of the filtered evidence.
-/

namespace Aldy

def opsAddLow (ops : List (String × List Obs)) (op : String) (low : List Obs) : List (String × List Obs) :=
  if ops.any (fun e => e.1 == op) then ops.map (fun e => if e.1 == op then (e.1, e.2 ++ low) else e)
  else ops ++ [(op, low)]

def Cov.addLow (c : Cov) (pos : Int) (op : String) (low : List Obs) : Cov :=
  { c with table := c.table.map fun e => if e.1 == pos then (e.1, opsAddLow e.2 op low) else e }

theorem opsAddLow_eq_upsert (ops : List (String × List Obs)) (op : String) (low : List Obs) :
    opsAddLow ops op low = upsert ops op (· ++ low) low := rfl

theorem addLow_quals (c : Cov) (pos : Int) (op : String) (low : List Obs) (m : Mut)
    (hpos : ∃ v, c.table.lookup pos = some v) :
    (c.addLow pos op low).quals m = if m.pos = pos ∧ m.op = op then c.quals m ++ low else c.quals m := by
  unfold Cov.quals Cov.ops Cov.addLow
  dsimp only
  rw [lookup_map_at c.table pos (opsAddLow · op low)]
  by_cases hp : m.pos = pos
  · obtain ⟨v, hv⟩ := hpos
    rw [hp, hv, if_pos (beq_self_eq_true pos), Option.map_some, Option.getD_some, Option.getD_some, opsAddLow_eq_upsert,
      lookup_upsert]
    by_cases ho : m.op = op
    · rw [if_pos (beq_iff_eq.mpr ho), if_pos ⟨rfl, ho⟩, ho, Option.getD_some]
      cases v.lookup op <;> rfl
    · rw [if_neg (fun h => ho (eq_of_beq h)), if_neg (fun h => ho h.2)]
  · rw [if_neg (fun h => hp (eq_of_beq h)), if_neg (fun h => hp h.1)]

theorem addLow_qualityFilter (c : Cov) (p : ProfileV) (pos : Int) (op : String) (low : List Obs) (m : Mut)
    (hlow : ∀ o ∈ low, lowObs p o) (hpos : ∃ v, c.table.lookup pos = some v) :
    (c.addLow pos op low).qualityFilter p m = c.qualityFilter p m := by
  by_cases h : m.pos = pos ∧ m.op = op
  · exact qfilter_ignores_low p c _ m low hlow (by rw [addLow_quals c pos op low m hpos, if_pos h])
  · unfold Cov.qualityFilter
    rw [addLow_quals c pos op low m hpos, if_neg h]

/-- what `filtered(quality_filter)` keeps of the entry `op` of site `pos`: it reads the key only -/
def qkeep (c : Cov) (p : ProfileV) (pos : Int) (op : String) : Option (String × List Obs) :=
  if (c.qualityFilter p ⟨pos, op⟩).isEmpty then none else some (op, c.qualityFilter p ⟨pos, op⟩)

theorem qfiltered_eq (c : Cov) (p : ProfileV) :
    c.qfiltered p = ⟨c.table.map fun e => (e.1, e.2.filterMap fun x => qkeep c p e.1 x.1), c.indels.filter fun _ => true⟩ :=
  rfl

/-- **qfiltered_addLow** adding observations that fail the base- or mapping-quality threshold to
any operation (catalogued there or not) at a position of the table leaves the quality-filtered
evidence identical -/
theorem qfiltered_addLow (c : Cov) (p : ProfileV) (pos : Int) (op : String) (low : List Obs)
    (hlow : ∀ o ∈ low, lowObs p o) (hkeys : (c.table.map (·.1)).Nodup)
    (hpos : ∃ v, c.table.lookup pos = some v) :
    (c.addLow pos op low).qfiltered p = c.qfiltered p := by
  have hk : qkeep (c.addLow pos op low) p = qkeep c p := by
    funext pos' op'
    unfold qkeep
    rw [addLow_qualityFilter c p pos op low _ hlow hpos]
  rw [qfiltered_eq, qfiltered_eq, hk]
  refine congrArg (Cov.mk · _) ?_
  show (c.table.map _).map _ = _
  rw [List.map_map]
  refine List.map_congr_left fun e he => ?_
  rw [Function.comp_apply]
  split
  · refine congrArg (Prod.mk e.1) (filterMap_key_upsert (qkeep c p e.1) e.2 op (· ++ low) low fun hn => ?_)
    -- an operation the site does not list has no observations, so nothing of it is kept
    have hnone : e.2.lookup op = none :=
      Option.not_isSome_iff_eq_none.mp (by rw [← any_key_eq_isSome, hn]; exact Bool.false_ne_true)
    have hq : c.quals ⟨e.1, op⟩ = [] := by
      unfold Cov.quals Cov.ops
      rw [lookup_of_mem_nodup_keys hkeys he, Option.getD_some, hnone]
      rfl
    unfold qkeep Cov.qualityFilter
    rw [hq]; rfl
  · rfl

/-- **major_model_ignores_low** the stage models are built from the quality-filtered evidence
(`mk`, any function of it): low-quality observations do not change them -/
theorem major_model_ignores_low (mk : Cov → MajorInst) (c : Cov) (p : ProfileV) (pos : Int) (op : String) (low : List Obs)
    (hlow : ∀ o ∈ low, lowObs p o) (hkeys : (c.table.map (·.1)).Nodup) (hpos : ∃ v, c.table.lookup pos = some v) :
    (mk ((c.addLow pos op low).qfiltered p)).build = (mk (c.qfiltered p)).build := by
  rw [qfiltered_addLow c p pos op low hlow hkeys hpos]

instance (p : ProfileV) (o : Obs) : Decidable (lowObs p o) := by unfold lowObs; infer_instance
instance : DecidableEq Obs := inferInstanceAs (DecidableEq (Rat × Rat))

def exTab : Cov :=
  { table := [(10, [("_", [(60, 40), (60, 40)]), ("A>G", [(60, 40)])]), (20, [("_", [(60, 40)])])], indels := [] }
def exP : ProfileV :=
  { threshold := 1/2, minCoverage := 1, minQuality := 10, minMapq := 10, cnMax := 20, gap := 0, cnPcePenalty := 2,
    cnDiff := 10, cnFit := 1, cnParsimony := 1/2, cnFusionLeft := 1/2, cnFusionRight := 1/4, majorNovel := 21,
    minorMiss := 3/2, minorAdd := 1, minorPhase := 2/5 }

example : ((exTab.addLow 10 "A>G" [(60, 5), (3, 40)]).qfiltered exP).table = (exTab.qfiltered exP).table := by decide +kernel
/-- observations that pass the thresholds do change the filtered table (the statement is not vacuous) -/
example : ¬ ((exTab.addLow 10 "A>G" [(60, 40)]).qfiltered exP).table = (exTab.qfiltered exP).table := by decide +kernel

/-- the hypotheses of `qfiltered_addLow` hold for the example and the theorem applies -/
example : (exTab.addLow 20 "C>T" [(60, 5)]).qfiltered exP = exTab.qfiltered exP :=
  qfiltered_addLow exTab exP 20 "C>T" [(60, 5)] (by decide +kernel) (by decide +kernel) ⟨_, rfl⟩

end Aldy
