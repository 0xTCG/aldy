import Aldy.Lemmas.Major

/-!
# C02 — major star-allele calls are consistent, optimal and complete

Theorems about `MajorInst.build`, the model of `solve_major_model`'s construction, for
**every** instance and every feasible point `σ`.  The correspondence `major_structure` checks on every run that the model
the real code hands to CBC *is* `MajorInst.build` of the same instance.
-/

namespace Aldy
open MajorInst

def countOnes (σ : MVar → Rat) (vs : List MVar) : Nat := (vs.filter fun v => decide (σ v = 1)).length

/-- **major_csat** every feasible point gives each structural configuration exactly as many
called allele copies as the structure has copies of it. -/
theorem major_csat (I : MajorInst) (σ : MVar → Rat) (h : I.build.Sat σ)
    (cc : String × Nat) (hcc : cc ∈ I.cn.solution) :
    countOnes σ ((I.slots.filter fun s => s.1.cnConfig == cc.1).map va) = cc.2 := by
  have hf := sat_iff.mp h
  have := hf.fill cc hcc
  rw [sumVars_eq_count σ _ (List.forall_mem_map.mpr fun s hs => hf.binA s (List.mem_filter.mp hs).1)] at this
  exact_mod_cast this

/-- **major_xor** every observed core variant is accounted for exactly once: it is flagged
novel iff no called allele copy carries it — never both, never neither. -/
theorem major_xor (I : MajorInst) (σ : MVar → Rat) (h : I.build.Sat σ)
    (m : Mut) (hm : m ∈ I.funcMuts) :
    (σ (.N m) = 1 ↔ ¬ ∃ s ∈ I.carriers m, σ (va s) = 1) ∧ (σ (.N m) = 0 ∨ σ (.N m) = 1) := by
  have hf := sat_iff.mp h
  refine ⟨?_, hf.binN m hm⟩
  -- `N m = 1 - OR m`, and `OR m` is 0 or 1
  rw [← hf.carried m hm, eq_sub_of_add_eq (hf.xor m hm).2, sub_eq_self]
  exact ⟨fun h0 h1 => zero_ne_one (h0.symm.trans h1), (hf.binOR m hm).eq_zero_of_ne_one⟩

/-- **major_one_novel_per_site** -/
theorem major_one_novel_per_site (I : MajorInst) (σ : MVar → Rat) (h : I.build.Sat σ)
    (pos : Int) (hp : pos ∈ I.positions) :
    countOnes σ ((I.funcMuts.filter fun m => m.pos == pos && !m.isIns).map MVar.N) ≤ 1 := by
  have hf := sat_iff.mp h
  have := hf.one pos hp
  rw [sumVars_eq_count σ _ (List.forall_mem_map.mpr fun m hm => hf.binN m (List.mem_filter.mp hm).1)] at this
  exact_mod_cast this

/-- **major_copy_order** copy selectors of one allele are used in order (copy `i` only if
copy `i-1`): the decision part is determined by the allele *multiset*. -/
theorem major_copy_order (I : MajorInst) (σ : MVar → Rat) (h : I.build.Sat σ)
    (s : MajorA × Nat) (hs : s ∈ I.slots) (hpos : s.2 > 0) :
    σ (.A s.1.name s.2) ≤ σ (.A s.1.name (s.2 - 1)) :=
  (sat_iff.mp h).ord s hs hpos

/-- Value of the error row `m` that the equalities force. -/
def MajorInst.rowExpr (I : MajorInst) (σ : MVar → Rat) (m : Mut) : Rat :=
  if m.op == "_" then sumVars σ ((I.refCarriers m.pos).map va)
  else sumVars σ ((I.carriers m).map va) + σ (.N m)

/-- **major_error_rows** the free error term of a row is what the called carriers (and the novel flag of a
variant row) leave of the observed copies; the helper dominates its absolute value. -/
theorem major_error_rows (I : MajorInst) (σ : MVar → Rat) (h : I.build.Sat σ) :
    (∀ m ∈ I.funcMuts, σ (.E m) = I.observed m - (sumVars σ ((I.carriers m).map va) + σ (.N m)) ∧
        |σ (.E m)| ≤ σ (.ABS m)) ∧
    (∀ pos ∈ I.positions, σ (.E (refMut pos)) = I.observed (refMut pos) - sumVars σ ((I.refCarriers pos).map va) ∧
        |σ (.E (refMut pos))| ≤ σ (.ABS (refMut pos))) := by
  have hf := sat_iff.mp h
  obtain ⟨av, ar⟩ := forall_errRows.mp hf.abs
  exact ⟨fun m hm => ⟨hf.errVar m hm, av m hm⟩, fun pos hp => ⟨hf.errRef pos hp, ar pos hp⟩⟩

/-- **major_novel_flag** -/
theorem major_novel_flag (I : MajorInst) (σ : MVar → Rat) (h : I.build.Sat σ) :
    σ .NOVEL = 1 ↔ ∃ m ∈ I.funcMuts, σ (.N m) = 1 :=
  (sat_iff.mp h).novel

/-- **major_score_closed_form** the objective of a feasible point is at least
`Σ_rows |observed − called| + major_novel·[some novel] + 0.1·#novel` — the documented fit
error plus novelty penalties — and equals it exactly when every helper equals the absolute
error (which `abssum_opt` shows is the case at any optimum, since all weights are 1). -/
theorem major_score_closed_form (I : MajorInst) (σ : MVar → Rat) (h : I.build.Sat σ) :
    I.build.objective σ =
      (I.errRows.map fun m => σ (.ABS m)).sum + I.majorNovel * σ .NOVEL +
        Const.MAJOR_NOVEL_EACH * sumVars σ (I.funcMuts.map MVar.N) ∧
    (I.errRows.map fun m => |σ (.E m)|).sum ≤ (I.errRows.map fun m => σ (.ABS m)).sum :=
  ⟨objective_eq I σ, sum_map_le _ _ _ (sat_iff.mp h).abs⟩

/-- **major_active_antichain** no feasible point of the major model has an active set that
strictly contains the active set of another: points with nested active sets agree on every binary
variable (copy selectors by the structure equalities, the rest is determined by them).  This is the hypothesis of C05 `run_T6`, hence: every optimal
combination within the gap is reported, exactly once. -/
theorem major_active_antichain (I : MajorInst) (σ τ : MVar → Rat) (hσ : I.build.Sat σ) (hτ : I.build.Sat τ)
    (hcfg : ∀ a ∈ I.alleles, ∃ cc ∈ I.cn.solution, cc.1 = a.cnConfig)
    (hsub : ∀ s ∈ I.slots, σ (va s) = 1 → τ (va s) = 1) :
    (∀ s ∈ I.slots, σ (va s) = τ (va s)) ∧
    (∀ m ∈ I.funcMuts, σ (.OR m) = τ (.OR m) ∧ σ (.N m) = τ (.N m) ∧ σ (.XOR m) = τ (.XOR m)) ∧
    σ .NOVEL = τ .NOVEL := by
  have fσ := sat_iff.mp hσ
  have fτ := sat_iff.mp hτ
  have hle : ∀ s ∈ I.slots, σ (va s) ≤ τ (va s) := fun s hs => by
    rcases fσ.binA s hs with h0 | h1
    · rw [h0]; exact (fτ.binA s hs).nonneg
    · rw [h1, hsub s hs h1]
  -- over the slots of one configuration `σ ≤ τ` pointwise and both points fill it, so they agree there.
  -- Every candidate has such a configuration (`hcfg`): `filterAlleles` keeps no other.
  have hA : ∀ s ∈ I.slots, σ (va s) = τ (va s) := fun s hs => by
    obtain ⟨cc, hcc, hcfgeq⟩ := hcfg s.1 (mem_slots.mp hs).1
    exact eq_of_le_of_sum_le (I.slots.filter fun s => s.1.cnConfig == cc.1) (fun t => σ (va t)) (fun t => τ (va t))
      (fun t ht => hle t (List.mem_filter.mp ht).1)
      (by rw [← sumVars_map, ← sumVars_map, fσ.fill cc hcc, fτ.fill cc hcc])
      s (List.mem_filter.mpr ⟨hs, beq_iff_eq.mpr hcfgeq.symm⟩)
  exact ⟨hA, fσ.flags_eq fτ hA⟩

/-! ### Non-vacuity: a concrete instance and a point that meets its constraints -/

def exGene : GeneView :=
  { name := "G", regionNames := ["e1"], nGenes := 1, uniqueRegions := ["e1"],
    regionAt := [(10, (0, "e1"))],
    mutations := [⟨⟨10, "A>G"⟩, true, "-"⟩],
    alleles := [⟨"1", "1", [], []⟩, ⟨"2", "1", [⟨10, "A>G"⟩], []⟩],
    cnConfigs := [⟨"1", .default, [[("e1", 1)]], []⟩] }

def exInst : MajorInst :=
  { gene := exGene
    cov := { table := [(10, [("_", [(60, 60), (60, 60)]), ("A>G", [(60, 60), (60, 60)])])], indels := [] }
    cn := ⟨[("1", 2)]⟩
    alleles := exGene.alleles, majorNovel := 21, gap := 0 }

def exSigma : MVar → Rat
  | .A "1" 0 => 1 | .A "2" 0 => 1 | .XOR _ => 1 | .OR _ => 1 | _ => 0

example : exInst.funcMuts = [⟨10, "A>G"⟩] := by decide +kernel
example : ∀ c ∈ exInst.build.cons, c.holds exSigma := by decide +kernel

end Aldy
