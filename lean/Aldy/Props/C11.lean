import Aldy.Lemmas.SortStable

/-!
# C11 — the diplotype is a faithful arrangement of the called alleles

The arrangement keeps its copies in a dictionary (allele number ↦ copy indices) and on two sides.
Every phase of the heuristic only moves copies from the dictionary onto a side (`Keeps.of_move`):
the multiset of copy indices held anywhere (`content`) never changes and items once on a side
stay; sorting, flattening and the "non-empty side" repair only reorder.
-/

namespace Aldy

open List

/- `dictAppend`, `dictSet` and `dictTouch` change the first entry of a key only, so unless the keys are distinct they
are neither a `map` nor the `upsert` of `Lemmas/Keyed.lean`, and have lemmas of their own. -/

def dictFlat (d : Dict) : List Int := d.flatMap (·.2)

def dkeys (d : Dict) : List String := d.map (·.1)

theorem dictFlat_cons (e : String × List Int) (es : Dict) : dictFlat (e :: es) = e.2 ++ dictFlat es := rfl

theorem dkeys_cons (e : String × List Int) (es : Dict) : dkeys (e :: es) = e.1 :: dkeys es := rfl

theorem dictFlat_dictAppend (d : Dict) (k : String) (v : Int) :
    (dictFlat (dictAppend d k v)).Perm (dictFlat d ++ [v]) := by
  fun_induction dictAppend d k v with
  | case1 => rfl
  | case2 =>
    simp only [dictFlat_cons, append_assoc]
    exact perm_append_comm.append_left _
  | case3 _ _ _ _ _ ih =>
    simp only [dictFlat_cons, append_assoc]
    exact ih.append_left _

theorem dictFlat_dictTouch (d : Dict) (k : String) : dictFlat (dictTouch d k) = dictFlat d := by
  fun_induction dictTouch d k with
  | case1 => rfl
  | case2 => rfl
  | case3 e es k _ ih => rw [dictFlat_cons, ih, dictFlat_cons]

/-- Both ways in which a phase takes copies out of the dictionary: a key's whole list (`v = []`, `clearStep`)
or its head (`tandemLoop`). -/
theorem dictFlat_dictSet {d : Dict} {k : String} {u v : List Int} (h : dictGet d k = u ++ v) :
    (dictFlat (dictSet d k v) ++ u).Perm (dictFlat d) := by
  fun_induction dictSet d k v with
  | case1 => rw [(append_eq_nil_iff.mp h.symm).1]; rfl
  | case2 e es k v he =>
    rw [dictGet, if_pos he] at h
    rw [dictFlat_cons, dictFlat_cons, h, append_assoc u]
    exact perm_append_comm
  | case3 e es k v he ih =>
    rw [dictGet, if_neg he] at h
    rw [dictFlat_cons, dictFlat_cons, append_assoc]
    exact (ih h).append_left _

theorem dictGet_dictSet_ne (d : Dict) {k k' : String} (v : List Int) (h : k ≠ k') :
    dictGet (dictSet d k v) k' = dictGet d k' := by
  fun_induction dictSet d k v with
  | case1 => rfl
  | case2 e es k v he =>
    have : ¬ (e.1 == k') = true := by rw [beq_iff_eq.mp he]; simpa using h
    rw [dictGet, dictGet, if_neg this, if_neg this]
  | case3 e es k v _ ih => rw [dictGet, dictGet, ih h]

/-- `v` when `k` is a key and `[]` when it is not: a suffix of `v` either way, which is all that is used. -/
theorem dictGet_dictSet_self_suffix (d : Dict) (k : String) (v : List Int) : dictGet (dictSet d k v) k <:+ v := by
  fun_induction dictSet d k v with
  | case1 => exact nil_suffix
  | case2 e es k v he => rw [dictGet, if_pos he]; exact suffix_refl v
  | case3 e es k v he ih => rw [dictGet, if_neg he]; exact ih

theorem dictGet_dictTouch (d : Dict) (k k' : String) : dictGet (dictTouch d k) k' = dictGet d k' := by
  fun_induction dictTouch d k with
  | case1 k => rw [dictGet, dictGet]; exact ite_self _
  | case2 => rfl
  | case3 e es k _ ih => rw [dictGet, dictGet, ih]

theorem dkeys_dictSet (d : Dict) (k : String) (v : List Int) : dkeys (dictSet d k v) = dkeys d := by
  fun_induction dictSet d k v with
  | case1 => rfl
  | case2 => rfl
  | case3 e es k v _ ih => rw [dkeys_cons, dkeys_cons, ih]

theorem dkeys_dictTouch (d : Dict) (k : String) :
    dkeys (dictTouch d k) = if k ∈ dkeys d then dkeys d else dkeys d ++ [k] := by
  fun_induction dictTouch d k with
  | case1 => rfl
  | case2 e es k he => rw [if_pos]; rw [← beq_iff_eq.mp he]; exact mem_cons_self
  | case3 e es k he ih =>
    have hk : k ∈ dkeys (e :: es) ↔ k ∈ dkeys es :=
      mem_cons.trans (or_iff_right fun h => he (by rw [h]; exact beq_self_eq_true _))
    rw [dkeys_cons, ih, if_congr hk rfl rfl]
    split <;> rfl

theorem dkeys_dictAppend (d : Dict) (k : String) (v : Int) : dkeys (dictAppend d k v) = dkeys (dictTouch d k) := by
  fun_induction dictAppend d k v with
  | case1 => rfl
  | case2 e es k v he => rw [dictTouch, if_pos he]; rfl
  | case3 e es k v he ih => rw [dictTouch, if_neg he, dkeys_cons, dkeys_cons, ih]

theorem nodup_dictTouch {d : Dict} (k : String) (h : (dkeys d).Nodup) : (dkeys (dictTouch d k)).Nodup := by
  rw [dkeys_dictTouch]
  split
  · exact h
  · rename_i hk; exact (perm_append_singleton k _).nodup_iff.mpr (nodup_cons.mpr ⟨hk, h⟩)

theorem nodup_dictAppend {d : Dict} (k : String) (v : Int) (h : (dkeys d).Nodup) :
    (dkeys (dictAppend d k v)).Nodup := by
  rw [dkeys_dictAppend]; exact nodup_dictTouch k h

theorem dictGet_of_mem {d : Dict} (h : (dkeys d).Nodup) {e : String × List Int} (he : e ∈ d) :
    dictGet d e.1 = e.2 := by
  induction d with
  | nil => cases he
  | cons x xs ih =>
    rw [dkeys_cons, nodup_cons] at h
    rw [dictGet]
    rcases mem_cons.mp he with rfl | he
    · rw [if_pos (beq_self_eq_true _)]
    · rw [if_neg fun hx => h.1 (mem_map.mpr ⟨e, he, (beq_iff_eq.mp hx).symm⟩)]
      exact ih h.2 he

def sides (s : DipState) : List Item := s.d0 ++ s.d1

def content (s : DipState) : List Int := dictFlat s.dict ++ (sides s).flatMap Item.flat

theorem flatMap_flat_ones (l : List Int) : (l.map Item.one).flatMap Item.flat = l :=
  (flatMap_map Item.one Item.flat l).trans (flatMap_singleton' l)

theorem addTo_dict (s : DipState) (k : Nat) (items : List Item) : (s.addTo k items).dict = s.dict := by
  unfold DipState.addTo; split <;> rfl

theorem sides_addTo (s : DipState) (k : Nat) (items : List Item) :
    (sides (s.addTo k items)).Perm (sides s ++ items) := by
  unfold DipState.addTo sides
  split
  · simp only [append_assoc]; exact perm_append_comm.append_left _
  · simp only [append_assoc]; rfl

/-- Rewrite with this (`simp only`, or `rw` where a state built by `with` is the only candidate) before
comparing a state built by `with` to one built by `addTo`: left to itself the unifier evaluates `addTo`
and `balance` first, at a hundred times the cost. -/
theorem sides_mk (s : DipState) (d : Dict) (c : Nat) : sides ⟨d, s.d0, s.d1, c⟩ = sides s := rfl

structure Keeps (s s' : DipState) : Prop where
  perm : (content s').Perm (content s)
  nodup : (dkeys s.dict).Nodup → (dkeys s'.dict).Nodup
  subset : sides s ⊆ sides s'

theorem Keeps.refl (s : DipState) : Keeps s s := ⟨.refl _, id, Subset.refl _⟩

theorem Keeps.trans {s₁ s₂ s₃ : DipState} (h : Keeps s₁ s₂) (h' : Keeps s₂ s₃) : Keeps s₁ s₃ :=
  ⟨h'.perm.trans h.perm, h'.nodup ∘ h.nodup, h.subset.trans h'.subset⟩

theorem Keeps.of_move {s s' : DipState} (items : List Item)
    (hs : (sides s').Perm (sides s ++ items))
    (hd : (dictFlat s'.dict ++ items.flatMap Item.flat).Perm (dictFlat s.dict))
    (hk : (dkeys s.dict).Nodup → (dkeys s'.dict).Nodup) : Keeps s s' := by
  refine ⟨?_, hk, fun _ hx => hs.symm.subset (mem_append_left _ hx)⟩
  have h := hs.flatMap_right Item.flat
  rw [flatMap_append] at h
  refine ((h.trans perm_append_comm).append_left _).trans ?_
  rw [content, ← append_assoc]
  exact hd.append_right _

theorem keeps_touch (s : DipState) (k : String) : Keeps s { s with dict := dictTouch s.dict k } :=
  ⟨.of_eq (congrArg (· ++ _) (dictFlat_dictTouch s.dict k)), nodup_dictTouch k, Subset.refl _⟩

def clearStep (guard : List Int → Prop) [DecidablePred guard] (st : DipState) (e : String × List Int) : DipState :=
  if guard (dictGet st.dict e.1) then
    { st.addTo (balance st) ((dictGet st.dict e.1).map Item.one) with
      dc := balance st + 1, dict := dictSet (st.addTo (balance st) ((dictGet st.dict e.1).map Item.one)).dict e.1 [] }
  else st

theorem phaseDup_eq (s : DipState) : phaseDup s = s.dict.foldl (clearStep fun items => items.length > 1) s := rfl

theorem phaseRest_eq (s : DipState) : phaseRest s = s.dict.foldl (clearStep fun items => (!items.isEmpty) = true) s := rfl

section clearStep
variable (guard : List Int → Prop) [DecidablePred guard] (st : DipState) (e : String × List Int)

theorem clearStep_keys : dkeys (clearStep guard st e).dict = dkeys st.dict := by
  unfold clearStep
  split
  · rw [addTo_dict]; exact dkeys_dictSet _ _ _
  · rfl

theorem keeps_clearStep : Keeps st (clearStep guard st e) := by
  unfold clearStep
  split
  · refine .of_move ((dictGet st.dict e.1).map Item.one) ?_ ?_ ?_
    · rw [sides_mk]; exact sides_addTo st _ _
    · rw [flatMap_flat_ones, addTo_dict]
      exact dictFlat_dictSet (append_nil _).symm
    · rw [addTo_dict, dkeys_dictSet]; exact id
  · exact .refl st

theorem clearStep_get (hg : ∀ l, ¬ guard l → l = []) (k : String) :
    dictGet (clearStep guard st e).dict k = if e.1 = k then [] else dictGet st.dict k := by
  unfold clearStep
  split
  · rw [addTo_dict]
    split
    · next h => rw [← h]; exact suffix_nil.mp (dictGet_dictSet_self_suffix _ _ _)
    · next h => exact dictGet_dictSet_ne _ _ h
  · next hn =>
    split
    · next h => rw [← h]; exact hg _ hn
    · rfl

theorem foldl_clearStep_keeps (es : Dict) : Keeps st (es.foldl (clearStep guard) st) :=
  foldlRecOn (motive := Keeps st) _ _ (.refl st) fun s h e _ => h.trans (keeps_clearStep guard s e)

theorem foldl_clearStep_keys (es : Dict) : dkeys (es.foldl (clearStep guard) st).dict = dkeys st.dict :=
  foldlRecOn (motive := fun s => dkeys s.dict = dkeys st.dict) _ _ rfl
    fun s h e _ => (clearStep_keys guard s e).trans h

theorem foldl_clearStep_get (hg : ∀ l, ¬ guard l → l = []) (es : Dict) (k : String) :
    dictGet (es.foldl (clearStep guard) st).dict k = if k ∈ dkeys es then [] else dictGet st.dict k := by
  induction es generalizing st with
  | nil => rfl
  | cons e es ih =>
    rw [foldl_cons, ih, clearStep_get guard st e hg, ← ite_or]
    exact if_congr (by rw [dkeys_cons, mem_cons, or_comm, eq_comm]) rfl rfl

end clearStep

theorem phaseDup_keeps (s : DipState) : Keeps s (phaseDup s) := phaseDup_eq s ▸ foldl_clearStep_keeps _ s s.dict

theorem phaseRest_keeps (s : DipState) : Keeps s (phaseRest s) := phaseRest_eq s ▸ foldl_clearStep_keeps _ s s.dict

theorem phaseEven_keeps (s : DipState) : Keeps s (phaseEven s) := by
  unfold phaseEven
  split
  · rename_i k items hd
    split
    · refine .of_move (items.map Item.one) ?_ ?_ fun _ => nodup_nil
      · simp only [sides_mk]
        refine ((sides_addTo _ _ _).trans ((sides_addTo _ _ _).append_right _)).trans ?_
        rw [append_assoc, ← map_append, take_append_drop]
      · rw [flatMap_flat_ones, hd]; exact .of_eq (append_nil items).symm
    · exact .refl s
  · exact .refl s

theorem tandemLoop_induction {P : DipState → Prop} (ta tb : String)
    (touch : ∀ (s : DipState) (k : String), P s → P { s with dict := dictTouch s.dict k })
    (pair : ∀ (s : DipState) (a : Int) (as : List Int) (b : Int) (bs : List Int), P s →
      dictGet s.dict ta = a :: as → dictGet s.dict tb = b :: bs →
      P { ({ s with dict := dictSet (dictSet s.dict ta as) tb bs }).addTo s.dc [Item.pair a b] with dc := s.dc + 1 })
    (fuel : Nat) (s : DipState) (h : P s) : P (tandemLoop ta tb fuel s) := by
  induction fuel generalizing s with
  | zero => exact h
  | succ fuel ih =>
    unfold tandemLoop
    simp only
    split
    · exact touch s ta h
    · split
      · rename_i a as b bs ha hb
        exact ih _ (pair _ a as b bs (touch _ tb (touch s ta h)) ha hb)
      · exact touch _ tb (touch s ta h)

theorem tandemLoop_keeps (ta tb : String) (hne : ta ≠ tb) (fuel : Nat) (s : DipState) :
    Keeps s (tandemLoop ta tb fuel s) := by
  refine tandemLoop_induction (P := Keeps s) ta tb (fun st k h => h.trans (keeps_touch st k)) ?_ fuel s (.refl s)
  intro st a as b bs h ha hb
  refine h.trans (.of_move [Item.pair a b] ?_ ?_ ?_)
  · simp only [sides_mk]; exact sides_addTo _ _ _
  · rw [addTo_dict]
    -- take `b` from under `tb` (untouched by the change under `ta`), then `a` from under `ta`
    have h2 := dictFlat_dictSet (d := dictSet st.dict ta as) (u := [b]) (v := bs)
      ((dictGet_dictSet_ne st.dict as hne).trans hb)
    exact perm_middle.trans ((h2.cons a).trans
      ((perm_append_singleton a _).symm.trans (dictFlat_dictSet (u := [a]) ha)))
  · rw [addTo_dict, dkeys_dictSet, dkeys_dictSet]; exact id

theorem phaseTandem_keeps (I : DipIn) (hne : ∀ t ∈ I.tandems, t.1 ≠ t.2) (s : DipState) :
    Keeps s (phaseTandem I s) := by
  unfold phaseTandem
  split
  · exact foldlRecOn (motive := Keeps s) _ _ (.refl s)
      fun st h t ht => h.trans (tandemLoop_keeps t.1 t.2 (hne t ht) _ st)
  · exact .refl s

theorem phaseRest_empty (s : DipState) (h : (dkeys s.dict).Nodup) : dictFlat (phaseRest s).dict = [] := by
  rw [phaseRest_eq]
  have hk := foldl_clearStep_keys (fun items => (!items.isEmpty) = true) s s.dict
  refine flatMap_eq_nil_iff.mpr fun e he => ?_
  rw [← dictGet_of_mem (hk ▸ h) he, foldl_clearStep_get _ _ (fun l hl => by simpa using hl), if_pos]
  exact hk ▸ mem_map_of_mem he

theorem foldl_dictAppend_flat {α : Type} (f : α → String) (g : α → Int) (l : List α) (acc : Dict) :
    (dictFlat (l.foldl (fun acc x => dictAppend acc (f x) (g x)) acc)).Perm (dictFlat acc ++ l.map g) := by
  induction l generalizing acc with
  | nil => rw [map_nil, append_nil]; rfl
  | cons x xs ih =>
    refine (ih _).trans (((dictFlat_dictAppend acc (f x) (g x)).append_right _).trans ?_)
    rw [append_assoc]; rfl

theorem nodup_foldl_dictAppend {α : Type} (f : α → String) (g : α → Int) (l : List α) {acc : Dict}
    (h : (dkeys acc).Nodup) : (dkeys (l.foldl (fun acc x => dictAppend acc (f x) (g x)) acc)).Nodup :=
  foldlRecOn (motive := fun d => (dkeys d).Nodup) _ _ h fun _ h _ _ => nodup_dictAppend _ _ h

theorem phaseGroup_eq (I : DipIn) : ∃ del : String, phaseGroup I =
    List.foldl (fun d v => dictAppend d del v)
      ((I.majors.zipIdx).foldl (fun acc mi => dictAppend acc (realKey mi.1) (mi.2 : Int)) [])
      (List.replicate (if I.delAllele.isSome then 2 - I.majors.length else 0) (-1 : Int)) := by
  unfold phaseGroup
  cases I.delAllele with
  | none => exact ⟨"", rfl⟩
  | some del =>
    refine ⟨del, ?_⟩
    dsimp only
    by_cases h0 : I.majors.length = 0
    · rw [h0]; rfl
    by_cases h1 : I.majors.length = 1
    · rw [h1]; rfl
    rw [if_neg (mt beq_iff_eq.mp h0), if_neg (mt beq_iff_eq.mp h1), show 2 - I.majors.length = 0 by omega]
    rfl

theorem phaseGroup_nodup (I : DipIn) : (dkeys (phaseGroup I)).Nodup := by
  obtain ⟨del, h⟩ := phaseGroup_eq I
  rw [h]
  exact nodup_foldl_dictAppend _ _ _ (nodup_foldl_dictAppend _ _ _ nodup_nil)

/-- **placeholders_exact** the grouped copies are exactly the indices `0..n-1`, plus two
deletion placeholders when nothing is called and one when a single copy is called - only
for a gene that has a whole-gene deletion allele. -/
theorem placeholders_exact (I : DipIn) :
    (dictFlat (phaseGroup I)).Perm
      ((List.range I.majors.length).map Int.ofNat ++
        (match I.delAllele with
         | some _ => List.replicate (2 - I.majors.length) (-1)
         | none => [])) := by
  obtain ⟨del, h⟩ := phaseGroup_eq I
  rw [h]
  refine (foldl_dictAppend_flat (fun _ => del) id _ _).trans ?_
  refine ((foldl_dictAppend_flat (fun mi : String × Nat => realKey mi.1) (fun mi => (mi.2 : Int)) _ []).append_right
    _).trans (.of_eq ?_)
  rw [map_id, range_eq_range', ← zipIdx_map_snd 0 I.majors, map_map]
  cases I.delAllele <;> rfl

theorem dropLast_append_getLast_toList {α : Type} (l : List α) : l.dropLast ++ l.getLast?.toList = l := by
  cases h : l.getLast? with
  | none => rw [getLast?_eq_none_iff.mp h]; rfl
  | some a => exact dropLast_append_getLast? a h

theorem phaseFix_append (s : DipState) : (phaseFix s).1 ++ (phaseFix s).2 = sides s := by
  unfold phaseFix
  split
  · rename_i h
    split
    · rw [sides, isEmpty_iff.mp h, append_nil]; exact dropLast_append_getLast_toList _
    · rfl
  · rfl

/-- **phaseFix_nonempty** after the repair the second haplotype is non-empty whenever at
least two items were placed. -/
theorem phaseFix_nonempty (s : DipState) (h : s.d0.length + s.d1.length ≥ 2) :
    (phaseFix s).1 ≠ [] ∧ (phaseFix s).2 ≠ [] ∨ (s.d1 ≠ [] ∧ s.d0 = []) := by
  unfold phaseFix
  split
  · rename_i h1
    rw [isEmpty_iff.mp h1, length_nil, Nat.add_zero] at h
    rw [if_pos (show s.d0.length > 1 from h)]
    refine .inl ⟨ne_nil_of_length_pos (by rw [length_dropLast]; omega), ?_⟩
    rw [getLast?_eq_getLast_of_ne_nil (ne_nil_of_length_pos (by omega))]
    exact cons_ne_nil _ _
  · rename_i h1
    have h1 : s.d1 ≠ [] := fun h => h1 (isEmpty_iff.mpr h)
    by_cases h0 : s.d0 = []
    · exact .inr ⟨h1, h0⟩
    · exact .inl ⟨h0, h1⟩

def lastState (I : DipIn) : DipState :=
  phaseRest (phaseDup (phaseEven (phaseTandem I { dict := phaseGroup I, d0 := [], d1 := [], dc := 0 })))

theorem estimateDiplotype_eq (I : DipIn) :
    estimateDiplotype I =
      sortStable (fun x y => keysLt (x.map fun i => natKey (nameOf I i)) (y.map fun i => natKey (nameOf I i)))
        [flatten I (phaseFix (lastState I)).1, flatten I (phaseFix (lastState I)).2] := by
  simp only [estimateDiplotype, lastState]

theorem flatten_perm (I : DipIn) (d : List Item) : (flatten I d).Perm (d.flatMap Item.flat) :=
  (sortStable_perm _ d).flatMap_right _

theorem estimateDiplotype_perm (I : DipIn) :
    (estimateDiplotype I).flatten.Perm ((sides (lastState I)).flatMap Item.flat) := by
  rw [estimateDiplotype_eq, ← phaseFix_append, flatMap_append]
  refine (sortStable_perm _ _).flatten.trans ?_
  rw [flatten_cons, flatten_cons, flatten_nil, append_nil]
  exact (flatten_perm I _).append (flatten_perm I _)

/-- **diplotype_partition** the reported diplotype shows exactly the called copies `0..n-1`, plus
deletion placeholders for missing haplotypes (two when nothing is called, one when a single
copy is called, for genes with a whole-gene deletion allele): through grouping, tandem pairing,
even split, duplicate and rest balancing, the non-empty repair, flattening and the final order
no copy is lost, duplicated or invented.  Hypothesis: a catalogued tandem names two different
allele numbers (for `(x, x)` the code itself deletes two entries per pair or raises). -/
theorem diplotype_partition (I : DipIn) (hne : ∀ t ∈ I.tandems, t.1 ≠ t.2) :
    ((estimateDiplotype I).flatten).Perm
      ((List.range I.majors.length).map Int.ofNat ++
        (match I.delAllele with
         | some _ => List.replicate (2 - I.majors.length) (-1)
         | none => [])) := by
  -- up to the last phase the keys stay distinct, so that phase empties the dictionary
  have h3 : Keeps ⟨phaseGroup I, [], [], 0⟩ (phaseDup (phaseEven (phaseTandem I ⟨phaseGroup I, [], [], 0⟩))) :=
    ((phaseTandem_keeps I hne _).trans (phaseEven_keeps _)).trans (phaseDup_keeps _)
  have hcontent := (h3.trans (phaseRest_keeps _)).perm
  have h0 : content ⟨phaseGroup I, [], [], 0⟩ = dictFlat (phaseGroup I) := append_nil _
  rw [content, phaseRest_empty _ (h3.nodup (phaseGroup_nodup I)), nil_append, h0] at hcontent
  exact (estimateDiplotype_perm I).trans (hcontent.trans (placeholders_exact I))

example : estimateDiplotype { majors := ["1", "2"], names := ["1", "2"], delAllele := some "5", tandems := [] } = [[0], [1]] := by
  decide +kernel
example : estimateDiplotype { majors := ["2", "1"], names := ["2", "1"], delAllele := some "5", tandems := [] } = [[1], [0]] := by
  decide +kernel
example : estimateDiplotype { majors := ["13", "1", "2"], names := ["13", "1", "2"], delAllele := none, tandems := [("13", "1")] }
    = [[2], [0, 1]] := by decide +kernel
example : estimateDiplotype { majors := [], names := [], delAllele := some "5", tandems := [] } = [[-1], [-1]] := by
  decide +kernel
/-- the hypothesis of `diplotype_partition` holds for a catalogue with tandems, and the theorem applies -/
example : ((estimateDiplotype { majors := ["13", "1", "2"], names := ["13", "1", "2"], delAllele := none, tandems := [("13", "1")] }).flatten).Perm
    [0, 1, 2] :=
  diplotype_partition { majors := ["13", "1", "2"], names := ["13", "1", "2"], delAllele := none, tandems := [("13", "1")] } (by decide)
example : natKey "4+rs123" = [.text [], .num 4, .text ['+', 'r', 's'], .num 123] := by decide +kernel

end Aldy
