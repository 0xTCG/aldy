import Aldy.Props.C11

/-!
# C11 — a tandem pair stays together

The tandem step of `estimate_diplotype` puts the two copies of a common tandem on a haplotype as
one item `Item.pair a b`.  Every later step only appends single copies to a haplotype or moves
the last item of one haplotype to the other, the natural sort reorders *items*, and flattening
writes the two copies of a pair next to each other.
-/

namespace Aldy

open List

theorem flatten_pair_adjacent (I : DipIn) (d : List Item) (a b : Int) (h : Item.pair a b ∈ d) :
    ∃ l₁ l₂, flatten I d = l₁ ++ [a, b] ++ l₂ := by
  obtain ⟨s, t, hst⟩ := append_of_mem ((mem_sortStable _).mpr h)
  exact ⟨s.flatMap Item.flat, t.flatMap Item.flat, by rw [flatten, hst, flatMap_append, flatMap_cons, append_assoc]; rfl⟩

/-- **tandem_pair_adjacent** every pair on a haplotype after the tandem step is shown as two
neighbouring copies of one reported haplotype -/
theorem tandem_pair_adjacent (I : DipIn) (a b : Int)
    (h : Item.pair a b ∈ sides (phaseTandem I { dict := phaseGroup I, d0 := [], d1 := [], dc := 0 })) :
    ∃ hap ∈ estimateDiplotype I, ∃ l₁ l₂, hap = l₁ ++ [a, b] ++ l₂ := by
  have h1 : Item.pair a b ∈ sides (lastState I) :=
    (((phaseEven_keeps _).trans (phaseDup_keeps _)).trans (phaseRest_keeps _)).subset h
  rw [← phaseFix_append, mem_append] at h1
  have hmem : ∀ hap ∈ [flatten I (phaseFix (lastState I)).1, flatten I (phaseFix (lastState I)).2],
      hap ∈ estimateDiplotype I :=
    fun hap hh => estimateDiplotype_eq I ▸ (mem_sortStable _).mpr hh
  rcases h1 with h2 | h2
  · exact ⟨_, hmem _ (mem_cons_self ..), flatten_pair_adjacent I _ a b h2⟩
  · exact ⟨_, hmem _ (mem_cons_of_mem _ (mem_cons_self ..)), flatten_pair_adjacent I _ a b h2⟩

theorem tandemLoop_pairs_from (ta tb : String) (fuel : Nat) (s : DipState) (x : Item)
    (hx : x ∈ sides (tandemLoop ta tb fuel s)) :
    x ∈ sides s ∨ ∃ a b, x = Item.pair a b ∧ a ∈ dictGet s.dict ta ∧ b ∈ dictGet s.dict tb := by
  -- invariant: the lists under the two keys only lose their heads, and a pair is made of the two heads
  refine (tandemLoop_induction (P := fun st =>
      (x ∈ sides st → x ∈ sides s ∨ ∃ a b, x = Item.pair a b ∧ a ∈ dictGet s.dict ta ∧ b ∈ dictGet s.dict tb) ∧
      dictGet st.dict ta <:+ dictGet s.dict ta ∧ dictGet st.dict tb <:+ dictGet s.dict tb)
    ta tb ?_ ?_ fuel s ⟨Or.inl, suffix_refl _, suffix_refl _⟩).1 hx
  · intro st k h
    simpa only [sides_mk, dictGet_dictTouch] using h
  · intro st a as b bs ⟨h, hta, htb⟩ ha hb
    rw [ha] at hta; rw [hb] at htb
    refine ⟨fun hx => ?_, ?_, ?_⟩
    · simp only [sides_mk] at hx
      rcases mem_append.mp ((sides_addTo _ _ _).subset hx) with hx | hx
      · exact h hx
      · exact .inr ⟨a, b, mem_singleton.mp hx, hta.subset mem_cons_self, htb.subset mem_cons_self⟩
    · rw [addTo_dict]
      by_cases hab : ta = tb
      · subst hab; exact (dictGet_dictSet_self_suffix _ _ _).trans ((suffix_cons b bs).trans htb)
      · rw [dictGet_dictSet_ne _ _ (Ne.symm hab)]
        exact (dictGet_dictSet_self_suffix _ _ _).trans ((suffix_cons a as).trans hta)
    · rw [addTo_dict]
      exact (dictGet_dictSet_self_suffix _ _ _).trans ((suffix_cons b bs).trans htb)

/-- the tandem step forms pairs only from a copy of each of the two allele numbers of a catalogued tandem -/
theorem tandemLoop_pairs (ta tb : String) (fuel : Nat) (s : DipState) (x : Item) (hx : x ∈ sides (tandemLoop ta tb fuel s)) :
    x ∈ sides s ∨ ∃ a b, x = Item.pair a b :=
  (tandemLoop_pairs_from ta tb fuel s x hx).imp_right fun ⟨a, b, h, _⟩ => ⟨a, b, h⟩

/-! ### non-vacuity: CYP2D6-like call `*13, *1, *2` with the tandem (13, 1) -/
example : Item.pair 0 1 ∈ sides (phaseTandem { majors := ["13", "1", "2"], names := ["13", "1", "2"], delAllele := none, tandems := [("13", "1")] }
    { dict := phaseGroup { majors := ["13", "1", "2"], names := ["13", "1", "2"], delAllele := none, tandems := [("13", "1")] }, d0 := [], d1 := [], dc := 0 }) := by
  decide +kernel

end Aldy
