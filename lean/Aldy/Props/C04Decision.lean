import Aldy.Props.C04Spec

/-!
# C04 — the helpers of the refinement model are functions of the reported assignment

Two feasible points that report the same assignment agree on every product helper and on every
error term (`minor_helpers_determined`): what a point "says" about carried copies and row errors is
fixed by the assignment it reports.  With `minor_optimum_score_is_spec` (Props/C04Spec) the score of
an optimum is a function of the reported assignment.
-/

namespace Aldy
open MinorInst

structure SameAssignment (I : MinorInst) (σ τ : NVar → Rat) : Prop where
  hA : ∀ cs ∈ I.slots, σ (.A cs.2) = τ (.A cs.2)
  hK : ∀ cs ∈ I.slots, ∀ m ∈ cs.1.defMuts, σ (.K m cs.2) = τ (.K m cs.2)
  hN : ∀ cs ∈ I.slots, ∀ m ∈ I.newMuts cs.1, σ (.N m cs.2) = τ (.N m cs.2)

/-- **minor_helpers_determined** -/
theorem minor_helpers_determined (I : MinorInst) (σ τ : NVar → Rat) (hσ : I.build.Sat σ) (hτ : I.build.Sat τ)
    (hdef : ∀ cs ∈ I.slots, ∀ m ∈ cs.1.defMuts, m ∈ I.mutations) (hs : SameAssignment I σ τ) :
    (∀ cs ∈ I.slots, ∀ m ∈ cs.1.defMuts, σ (.MULK m cs.2) = τ (.MULK m cs.2)) ∧
    (∀ cs ∈ I.slots, ∀ m ∈ I.newMuts cs.1, σ (.MULN m cs.2) = τ (.MULN m cs.2)) ∧
    (∀ m ∈ I.mutations, σ (.E m) = τ (.E m)) ∧
    (∀ pos ∈ I.positions, σ (.E (refMut' pos)) = τ (.E (refMut' pos))) := by
  have fσ := sat_iff.mp hσ
  have fτ := sat_iff.mp hτ
  -- a product helper is the product of two reported selectors
  have hmulk : ∀ cs ∈ I.slots, ∀ m ∈ cs.1.defMuts, σ (.MULK m cs.2) = τ (.MULK m cs.2) := fun cs hcs m hm => by
    rw [fσ.mulK cs hcs m hm (hdef cs hcs m hm), fτ.mulK cs hcs m hm (hdef cs hcs m hm), hs.hA cs hcs, hs.hK cs hcs m hm]
  have hmuln : ∀ cs ∈ I.slots, ∀ m ∈ I.newMuts cs.1, σ (.MULN m cs.2) = τ (.MULN m cs.2) := fun cs hcs m hm => by
    rw [fσ.mulN cs hcs m hm, fτ.mulN cs hcs m hm, hs.hA cs hcs, hs.hN cs hcs m hm]
  refine ⟨hmulk, hmuln, fun m hm => ?_, fun pos hp => ?_⟩
  -- an error term is the observed value minus a row of copy selectors and product helpers
  · rw [fσ.errVar m hm, fτ.errVar m hm]
    refine congrArg _ (evalTerms_congr σ τ _ fun t ht => ?_)
    obtain ⟨cs, hcs, ⟨hd, rfl⟩ | ⟨hd, hc, rfl⟩⟩ := mem_varTerms ht
    · exact hmulk cs hcs m hd
    · exact hmuln cs hcs m (mem_newMuts.mpr ⟨hm, hc, hd⟩)
  · rw [fσ.errRef pos hp, fτ.errRef pos hp]
    refine congrArg _ (evalTerms_congr σ τ _ fun t ht => ?_)
    obtain ⟨cs, hcs, rfl | ⟨p, hp, rfl⟩ | ⟨m, hm, rfl⟩⟩ := mem_refTerms ht
    · exact hs.hA cs hcs
    · exact hmulk cs hcs p hp
    · exact hmuln cs hcs m hm

/-- **readout_refines_major** CHAIN CONSISTENCY (C10): the minor alleles reported for a feasible
point refine the major alleles of the major solution one to one -/
theorem readout_refines_major (I : MinorInst) (σ : NVar → Rat) (h : I.build.Sat σ)
    (mc : String × Nat) (hmc : mc ∈ I.majorSol) :
    ((readOut I (actOf σ)).filter fun c => c.major == mc.1).length = mc.2 := by
  -- both sides count the slots of that major allele whose copy selector is on
  rw [← minor_one_per_copy I σ h mc hmc, countOnesN, ← List.countP_eq_length_filter, ← List.countP_eq_length_filter,
    readOut, List.countP_filterMap, List.countP_map, List.countP_filter]
  refine List.countP_congr fun cs _ => ?_
  rw [Function.comp_apply]
  change _ ↔ (actOf σ (.A cs.2) && _) = true
  cases actOf σ (.A cs.2) <;> simp

end Aldy
