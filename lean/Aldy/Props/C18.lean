import Aldy.Model.Params
import Aldy.Lemmas.Keyed
import Mathlib.Data.Nat.Digits.Defs

/-!
# C18 — model parameters take the values the user gave, through every route

A float written as a string is covered only by `example`: there is no theorem about `parseFloatLit`.
-/

namespace Aldy
open Const

theorem strip_no_space (cs : List Char) (h : ∀ c ∈ cs, isSpace c = false) : strip cs = cs := by
  have hl : ∀ l : List Char, (∀ c ∈ l, isSpace c = false) → stripL l = l := by
    intro l hl
    cases l with
    | nil => rfl
    | cons c cs => simp [stripL, hl c (by simp)]
  unfold strip
  rw [hl cs h, hl cs.reverse (fun c hc => h c (List.mem_reverse.mp hc)), List.reverse_reverse]

/-- **update_bool_any_case** `true` / `false` in any letter case, and `1` / `0`, are accepted
with the documented meaning (casing = any list whose lower-casing is the word). -/
theorem update_bool_any_case (cs : List Char) (hsp : ∀ c ∈ cs, isSpace c = false) :
    (cs.map lowerChar = ['t', 'r', 'u', 'e'] → parseBoolChars cs = some true) ∧
    (cs.map lowerChar = ['f', 'a', 'l', 's', 'e'] → parseBoolChars cs = some false) ∧
    (cs = ['1'] → parseBoolChars cs = some true) ∧
    (cs = ['0'] → parseBoolChars cs = some false) := by
  refine ⟨?_, ?_, ?_, ?_⟩
  · intro h; simp [parseBoolChars, strip_no_space cs hsp, h]
  · intro h; simp [parseBoolChars, strip_no_space cs hsp, h]
  · intro h; subst h; decide
  · intro h; subst h; decide

/-- Anything else is rejected: the parser answers only on the four documented words. -/
theorem update_bool_malformed_rejected (cs : List Char) :
    parseBoolChars cs ≠ none →
      (strip cs).map lowerChar ∈ [['t', 'r', 'u', 'e'], ['1'], ['f', 'a', 'l', 's', 'e'], ['0']] := by
  intro h
  by_contra hn
  simp only [List.mem_cons, List.not_mem_nil, or_false, not_or] at hn
  exact h (by simp only [parseBoolChars, hn, false_or, if_false])

/-- **update_bool_native** real booleans and the integers 1/0 keep their value. -/
theorem update_bool_native (cur b : Bool) :
    convert (.bool cur) (.bool b) = some (.bool b) ∧
    convert (.bool cur) (.int 1) = some (.bool true) ∧
    convert (.bool cur) (.int 0) = some (.bool false) := ⟨rfl, rfl, rfl⟩

def digitChar (d : Nat) : Char := Char.ofNat (48 + d)

theorem digitChar_ok : ∀ d < 10, isDigit (digitChar d) = true ∧ digitVal (digitChar d) = d ∧ digitChar d ≠ '_' ∧
    isSpace (digitChar d) = false ∧ digitChar d ≠ '-' ∧ digitChar d ≠ '+' := by
  decide +kernel

theorem digitGroup_render (ds : List Nat) (h : ∀ d ∈ ds, d < 10) :
    digitGroup (ds.map digitChar) = some ds := by
  induction ds with
  | nil => rfl
  | cons d ds ih =>
    obtain ⟨h1, h2, -⟩ := digitChar_ok d (h d List.mem_cons_self)
    have ih' := ih fun x hx => h x (List.mem_cons_of_mem _ hx)
    cases ds with
    | nil => simp [digitGroup, h1, h2]
    | cons e es =>
      obtain ⟨-, -, h3, -⟩ := digitChar_ok e (h e (by simp))
      -- the next character is no underscore: the plain-digit equation of `digitGroup` applies
      rw [List.map_cons, digitGroup.eq_4 _ _ (by simp) (by rintro d r hr; exact h3 (List.head_eq_of_cons_eq hr)), ih']
      simp [h1, h2]

theorem natOfDigits_eq_ofDigits (ds : List Nat) : natOfDigits ds = Nat.ofDigits 10 ds.reverse := by
  rw [Nat.ofDigits_eq_foldr, List.foldr_reverse]
  exact congrArg (fun f => ds.foldl f 0)
    (funext fun acc => funext fun d => by rw [Nat.cast_id, Nat.mul_comm, Nat.add_comm])

theorem parseIntChars_of {cs body : List Char} {neg : Bool} {ds : List Nat}
    (hsp : ∀ c ∈ cs, isSpace c = false) (hs : splitSign cs = (neg, body)) (hb : body ≠ [])
    (hd : digitGroup body = some ds) :
    parseIntChars cs = some (if neg then -(natOfDigits ds : Int) else natOfDigits ds) := by
  unfold parseIntChars
  rw [strip_no_space cs hsp, hs]
  simp [hb, hd]

theorem parseIntChars_digits (ds : List Nat) (h : ∀ d ∈ ds, d < 10) (hne : ds ≠ []) :
    parseIntChars (ds.map digitChar) = some (natOfDigits ds : Int) ∧
    parseIntChars ('-' :: ds.map digitChar) = some (-(natOfDigits ds : Int)) ∧
    parseIntChars ('+' :: ds.map digitChar) = some (natOfDigits ds : Int) := by
  have hsp : ∀ c ∈ ds.map digitChar, isSpace c = false := by
    intro c hc
    obtain ⟨d, hd, rfl⟩ := List.mem_map.mp hc
    obtain ⟨-, -, -, hs, -⟩ := digitChar_ok d (h d hd)
    exact hs
  have hb : ds.map digitChar ≠ [] := by simpa using hne
  have hd := digitGroup_render ds h
  refine ⟨?_, ?_, ?_⟩
  · obtain ⟨d, ds', rfl⟩ := List.exists_cons_of_ne_nil hne
    obtain ⟨-, -, -, -, hminus, hplus⟩ := digitChar_ok d (h d List.mem_cons_self)
    refine parseIntChars_of (neg := false) hsp ?_ hb hd
    rw [List.map_cons, splitSign.eq_3 _ (fun _ e => hminus (List.head_eq_of_cons_eq e))
      (fun _ e => hplus (List.head_eq_of_cons_eq e))]
  · exact parseIntChars_of (neg := true) (List.forall_mem_cons.mpr ⟨by decide, hsp⟩) rfl hb hd
  · exact parseIntChars_of (neg := false) (List.forall_mem_cons.mpr ⟨by decide, hsp⟩) rfl hb hd

def renderNat (n : Nat) : List Char :=
  if n = 0 then ['0'] else ((Nat.digits 10 n).reverse).map digitChar

/-- **update_int_exact** an integer written in decimal (optionally signed) is parsed to exactly
that integer. -/
theorem update_int_exact (n : Nat) :
    parseIntChars (renderNat n) = some (n : Int) ∧
    parseIntChars ('-' :: renderNat n) = some (-(n : Int)) ∧
    parseIntChars ('+' :: renderNat n) = some (n : Int) := by
  unfold renderNat
  split
  · subst_vars; exact parseIntChars_digits [0] (by decide) (by decide)
  · rename_i hn
    have := parseIntChars_digits (Nat.digits 10 n).reverse
      (fun d hd => Nat.digits_lt_base (by decide) (List.mem_reverse.mp hd))
      (by simpa using Nat.digits_ne_nil_iff_ne_zero.mpr hn)
    rwa [natOfDigits_eq_ofDigits, List.reverse_reverse, Nat.ofDigits_digits] at this

/-- **update_numeric_native** native numbers keep their value under the parameter's type. -/
theorem update_numeric_native (c : Int) (q r : Rat) (n : Int) :
    convert (.int c) (.int n) = some (.int n) ∧
    convert (.float q) (.float r) = some (.float r) ∧
    convert (.float q) (.int n) = some (.float n) := ⟨rfl, rfl, rfl⟩

def sameType : PVal → PVal → Bool
  | .bool _, .bool _ => true
  | .int _, .int _ => true
  | .float _, .float _ => true
  | .str _, .str _ => true
  | _, _ => false

/-- **options_roundtrip** a typed value written to the options section of a profile and read
back (YAML hands it over as a native value) converts to itself. -/
theorem options_roundtrip (cur nv : PVal) (h : sameType cur nv = true) :
    convert cur (toPy nv) = some nv := by
  cases cur <;> cases nv <;> cases h <;> rfl

theorem splitAt1_append (p : Char → Bool) (k v : List Char) (c : Char) (hk : ∀ x ∈ k, p x = false)
    (hc : p c = true) : splitAt1 p (k ++ c :: v) = (k, some v) := by
  induction k with
  | nil => simp [splitAt1, hc]
  | cons x xs ih => simp [splitAt1, hk x (by simp), ih fun y hy => hk y (by simp [hy])]

/-- `--param` items are split at the *first* `=`. -/
theorem splitParam_first_eq (k v : List Char) (hk : ∀ c ∈ k, c ≠ '=' ∧ c ≠ '-') :
    splitParam (String.ofList (k ++ '=' :: v)) = some (String.ofList k, String.ofList v) := by
  have : k.map (fun c => if c == '-' then '_' else c) = k :=
    (List.map_congr_left fun c hc => if_neg (by simpa using (hk c hc).2)).trans (List.map_id' k)
  unfold splitParam
  rw [String.toList_ofList, splitAt1_append _ k v '=' (fun c hc => by simpa using (hk c hc).1) rfl]
  simp only [this]

theorem update_skipped (st : PState) {n : String} {v : PyVal} (rest : List (String × PyVal))
    (h : v = .none ∨ n = "cn_solution") : update st ((n, v) :: rest) = update st rest := by
  rw [update, if_pos (by simpa using h)]

/-- **update_unknown_ignored** a name that is not a parameter changes nothing and raises nothing. -/
theorem update_unknown_ignored (st : PState) (n : String) (v : PyVal) (rest : List (String × PyVal))
    (h : st.lookup n = none) : update st ((n, v) :: rest) = update st rest := by
  by_cases hs : v = .none ∨ n = "cn_solution"
  · exact update_skipped st rest hs
  · rw [update, if_neg (by simpa using hs), h]

/-- **update_malformed_rejected** a value that cannot be converted to the parameter's type
ends the update with an error naming the parameter. -/
theorem update_malformed_rejected (st : PState) (n : String) (v : PyVal) (rest : List (String × PyVal))
    (cur : PVal) (h : st.lookup n = some cur) (hv : v ≠ .none) (hn : n ≠ "cn_solution")
    (hbad : convert cur v = none) : update st ((n, v) :: rest) = .error n := by
  rw [update]
  have : (v == PyVal.none || n == "cn_solution") = false := by simp [hv, hn]
  simp [this, h, hbad]

/-- **update_none_skipped** `None` never changes a parameter. -/
theorem update_none_skipped (st : PState) (n : String) (rest : List (String × PyVal)) :
    update st ((n, .none) :: rest) = update st rest :=
  update_skipped st rest (.inl rfl)

theorem update_cons_set {st : PState} {n : String} {v : PyVal} {cur nv : PVal} (rest : List (String × PyVal))
    (h : st.lookup n = some cur) (hv : v ≠ .none) (hn : n ≠ "cn_solution") (hc : convert cur v = some nv) :
    update st ((n, v) :: rest) =
      (update (setParam st n nv) rest).map fun r => (r.1, (n, nv) :: r.2.filter (fun e => e.1 != n)) := by
  have : (v == PyVal.none || n == "cn_solution") = false := by simp [hv, hn]
  rw [update]
  simp only [this, h, hc]
  cases update (setParam st n nv) rest <;> rfl

theorem update_cons_ok {st st' : PState} {n : String} {v : PyVal} {rest : List (String × PyVal)}
    {ps : List (String × PVal)} (h : update st ((n, v) :: rest) = .ok (st', ps)) :
    (∃ ps', update st rest = .ok (st', ps')) ∨
    ∃ nv ps', update (setParam st n nv) rest = .ok (st', ps') := by
  by_cases hs : v = .none ∨ n = "cn_solution"
  · exact .inl ⟨ps, update_skipped st rest hs ▸ h⟩
  obtain ⟨hv, hn⟩ := not_or.mp hs
  cases hl : st.lookup n with
  | none => exact .inl ⟨ps, update_unknown_ignored st n v rest hl ▸ h⟩
  | some cur =>
    cases hc : convert cur v with
    | none => rw [update_malformed_rejected st n v rest cur hl hv hn hc] at h; cases h
    | some nv =>
      rw [update_cons_set rest hl hv hn hc] at h
      cases h2 : update (setParam st n nv) rest with
      | error _ => rw [h2] at h; cases h
      | ok r => rw [h2] at h; cases h; exact .inr ⟨nv, r.2, h2⟩

theorem lookup_setParam (st : PState) (n m : String) (v : PVal) :
    (setParam st n v).lookup m = (st.lookup m).map fun w => if m == n then v else w := by
  have hkey : ∀ e : String × PVal, (if e.1 == n then (n, v) else e).1 = e.1 := by
    intro e
    split
    · next h => exact (eq_of_beq h).symm
    · rfl
  rw [setParam, lookup_map_same st _ hkey]
  exact congrArg (Option.map · _) (funext fun w => apply_ite Prod.snd _ _ _)

theorem lookup_setParam_self {st : PState} {n : String} {cur : PVal} (v : PVal) (h : st.lookup n = some cur) :
    (setParam st n v).lookup n = some v := by
  simp [lookup_setParam, h]

theorem lookup_setParam_ne (st : PState) {n m : String} (v : PVal) (h : m ≠ n) :
    (setParam st n v).lookup m = st.lookup m := by
  simp [lookup_setParam, h]

/-- **update_takes_value** a well-formed value for a known parameter is stored, converted to
the parameter's type, and reported in the returned dictionary. -/
theorem update_takes_value (st : PState) (n : String) (v : PyVal) (cur nv : PVal)
    (h : st.lookup n = some cur) (hv : v ≠ .none) (hn : n ≠ "cn_solution") (hc : convert cur v = some nv) :
    update st [(n, v)] = .ok (setParam st n nv, [(n, nv)]) ∧ (setParam st n nv).lookup n = some nv :=
  ⟨update_cons_set [] h hv hn hc, lookup_setParam_self nv h⟩

theorem update_lookup_other {kw : List (String × PyVal)} {m : String} (hm : ∀ e ∈ kw, e.1 ≠ m)
    {st st' : PState} {ps : List (String × PVal)} (h : update st kw = .ok (st', ps)) :
    st'.lookup m = st.lookup m := by
  induction kw generalizing st ps with
  | nil => cases h; rfl
  | cons e rest ih =>
    have hrest : ∀ e ∈ rest, e.1 ≠ m := fun e he => hm e (List.mem_cons_of_mem _ he)
    rcases update_cons_ok h with ⟨ps', h'⟩ | ⟨nv, ps', h'⟩
    · exact ih hrest h'
    · rw [ih hrest h', lookup_setParam_ne st nv (hm e List.mem_cons_self).symm]

theorem update_lookup_mem {kw : List (String × PyVal)} {n : String} {v : PyVal} {cur nv : PVal}
    (hnd : (kw.map (·.1)).Nodup) (hmem : (n, v) ∈ kw) (hv : v ≠ .none) (hn : n ≠ "cn_solution")
    (hc : convert cur v = some nv) {st st' : PState} {ps : List (String × PVal)}
    (hcur : st.lookup n = some cur) (h : update st kw = .ok (st', ps)) : st'.lookup n = some nv := by
  induction kw generalizing st ps with
  | nil => cases hmem
  | cons e rest ih =>
    rw [List.map_cons, List.nodup_cons] at hnd
    rcases List.mem_cons.mp hmem with rfl | hmem
    · -- the entry itself: stored, and untouched by the rest (names are distinct)
      rw [update_cons_set rest hcur hv hn hc] at h
      cases h2 : update (setParam st n nv) rest with
      | error _ => rw [h2] at h; cases h
      | ok r =>
        rw [h2] at h; cases h
        rw [update_lookup_other (fun e he hen => hnd.1 (List.mem_map.mpr ⟨e, he, hen⟩)) h2]
        exact lookup_setParam_self nv hcur
    · have hne : n ≠ e.1 := fun hen => hnd.1 (List.mem_map.mpr ⟨(n, v), hmem, hen⟩)
      rcases update_cons_ok h with ⟨ps', h'⟩ | ⟨nv', ps', h'⟩
      · exact ih hnd.2 hmem hcur h'
      · exact ih hnd.2 hmem ((lookup_setParam_ne st nv' hne).trans hcur) h'

/-- **update_dict_takes_value** in an update with a whole dictionary (distinct names) that
succeeds, every known parameter given a well-formed value ends up with exactly that value in the
parameter's type - whatever else is in the dictionary and in whatever order. -/
theorem update_dict_takes_value (kw : List (String × PyVal)) (n : String) (v : PyVal) (cur nv : PVal)
    (hnd : (kw.map (·.1)).Nodup) (hmem : (n, v) ∈ kw) (hv : v ≠ .none) (hn : n ≠ "cn_solution")
    (hc : ∀ cur', sameType cur cur' = true → convert cur' v = some nv) (hsame : sameType cur nv = true) :
    ∀ (st st' : PState) (ps : List (String × PVal)), st.lookup n = some cur →
      update st kw = .ok (st', ps) → st'.lookup n = some nv :=
  fun _ _ _ hcur h =>
    -- `update_lookup_mem` is the statement with the plain hypothesis `convert cur v = some nv`.  Of `hc` only the
    -- instance at `cur` is used, and `hsame` only to meet its premise: `sameType cur cur` fails for the two
    -- constructors of `PVal` that `sameType` does not list.
    have hcur' : sameType cur cur = true := by
      cases cur <;> first | rfl | (cases nv <;> cases hsame)
    update_lookup_mem hnd hmem hv hn (hc cur hcur') hcur h

theorem mergeOptions_eq (opts params : List (String × PyVal)) :
    mergeOptions opts params = opts.map (fun e => (e.1, (params.lookup e.1).getD e.2)) ++
      params.filter fun e => !(opts.lookup e.1).isSome := by
  unfold mergeOptions
  congr 1
  · refine List.map_congr_left fun e _ => ?_
    cases params.lookup e.1 <;> rfl
  · simp only [any_key_eq_isSome]

theorem lookup_mergeOptions (opts params : List (String × PyVal)) (n : String) :
    (mergeOptions opts params).lookup n = (params.lookup n).or (opts.lookup n) := by
  rw [mergeOptions_eq, List.lookup_append, lookup_map_snd (fun k w => (params.lookup k).getD w),
    lookup_filter_key (fun k => !(opts.lookup k).isSome)]
  cases opts.lookup n <;> cases params.lookup n <;> rfl

/-- **load_explicit_wins** an explicit parameter given to `Profile.load` overrides the options
section of the file: the merged dictionary carries the explicit value - also when it is `False`,
`0` or `0.0`. -/
theorem load_explicit_wins (opts params : List (String × PyVal)) (n : String) (v : PyVal)
    (h : params.lookup n = some v) : (mergeOptions opts params).lookup n = some v := by
  rw [lookup_mergeOptions, h]; rfl

/-- **load_options_kept** a parameter the caller does not pass keeps the value of the options section. -/
theorem load_options_kept (opts params : List (String × PyVal)) (n : String)
    (h : params.lookup n = none) : (mergeOptions opts params).lookup n = opts.lookup n := by
  rw [lookup_mergeOptions, h]; rfl

theorem mergeOptions_keys_nodup (opts params : List (String × PyVal))
    (ho : (opts.map (·.1)).Nodup) (hp : (params.map (·.1)).Nodup) :
    ((mergeOptions opts params).map (·.1)).Nodup := by
  rw [mergeOptions_eq, List.map_append, List.map_map, List.nodup_append]
  refine ⟨ho, (List.filter_sublist.map _).nodup hp, ?_⟩
  rintro _ ha _ hb rfl
  obtain ⟨o, ho', rfl⟩ := List.mem_map.mp ha
  obtain ⟨p, hp', (hpo : p.1 = o.1)⟩ := List.mem_map.mp hb
  -- `p` survived the filter, so its name is no key of `opts`; but it is the name of `o`
  have := (List.mem_filter.mp hp').2
  rw [hpo, lookup_isSome_of_mem ho'] at this
  cases this

theorem setDefault_eq_upsert (d : List (String × PyVal)) (k : String) (v : PyVal) :
    setDefault d k v = upsert d k id v := by
  have hmap : (d.map fun e => if e.1 == k then (e.1, id e.2) else e) = d :=
    (List.map_congr_left fun e _ => ite_self e).trans (List.map_id' d)
  unfold setDefault upsert
  rw [hmap]

theorem setDefault_keys_nodup (d : List (String × PyVal)) (k : String) (v : PyVal) (h : (d.map (·.1)).Nodup) :
    ((setDefault d k v).map (·.1)).Nodup :=
  setDefault_eq_upsert d k v ▸ nodup_keys_upsert d k id v h

theorem setDefault_lookup (d : List (String × PyVal)) (k : String) (v x : PyVal) (n : String)
    (h : d.lookup n = some x) : (setDefault d k v).lookup n = some x := by
  rw [setDefault_eq_upsert, lookup_upsert]
  split
  · next hk => rw [← eq_of_beq hk, h]; rfl
  · exact h

/-- **load_param_takes_value** the `Profile.load` route end to end: whatever the options section
of the profile file says, a known parameter passed explicitly with a well-formed value (`False`,
`0`, `0.0` included) has exactly that value, in the parameter's type, in the loaded profile. -/
theorem load_param_takes_value (opts params : List (String × PyVal)) (neutral : PyVal) (n : String) (v : PyVal)
    (cur nv : PVal) (ho : (opts.map (·.1)).Nodup) (hp : (params.map (·.1)).Nodup)
    (hgiven : params.lookup n = some v) (hv : v ≠ .none) (hn : n ≠ "cn_solution")
    (hcur : initState.lookup n = some cur)
    (hc : ∀ cur', sameType cur cur' = true → convert cur' v = some nv) (hsame : sameType cur nv = true)
    (st' : PState) (ps : List (String × PVal))
    (hok : update initState (loadOptions opts params neutral) = .ok (st', ps)) : st'.lookup n = some nv := by
  have hl : (loadOptions opts params neutral).lookup n = some v :=
    setDefault_lookup _ _ _ _ _ (load_explicit_wins opts params n v hgiven)
  have hnd : ((loadOptions opts params neutral).map (·.1)).Nodup :=
    setDefault_keys_nodup _ _ _ (mergeOptions_keys_nodup opts params ho hp)
  exact update_dict_takes_value _ n v cur nv hnd (mem_of_lookup_eq_some hl) hv hn hc hsame initState st' ps hcur hok

example : mergeOptions [("phase", .bool true), ("gap", .float (1/10))] [("phase", .bool false), ("min_mapq", .int 0)] =
    [("phase", .bool false), ("gap", .float (1/10)), ("min_mapq", .int 0)] := by decide +kernel
example : (update initState (loadOptions [("phase", .bool true)] [("phase", .bool false)] (.float 1000))).toOption.map
    (fun r => r.1.lookup "phase") = some (some (.bool false)) := by decide +kernel

example : (initState.lookup "phase") = some (.bool true) := by decide +kernel
example : update initState [("phase", .str "FALSE"), ("gap", .str "1e-1"), ("nope", .str "x")] =
    .ok (setParam (setParam initState "phase" (.bool false)) "gap" (.float (1/10)),
         [("phase", .bool false), ("gap", .float (1/10))]) := by decide +kernel
example : update initState [("min_quality", .str "1.5")] = .error "min_quality" := by decide +kernel

end Aldy
