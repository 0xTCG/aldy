import Aldy.Props.C01

/-!
# C01 at spec level — zero-error evidence makes the planted multiset the documented optimum

Links the two descriptions of the major stage: `Planted I k` (Props/C01) and the documented score
`specMajor` (Props/C02Spec).  No multiset scores below 0, so a planted one, which scores 0, has the
least documented score.
-/

namespace Aldy
open MajorInst

theorem absQ_nonneg (x : Rat) : 0 ≤ absQ x := by rw [absQ_eq_abs]; exact abs_nonneg x

/-- **specMajor_nonneg** -/
theorem specMajor_nonneg (I : MajorInst) (k : String → Nat) (hn : 0 ≤ I.majorNovel) : 0 ≤ I.specMajor k := by
  unfold specMajor
  refine add_nonneg (add_nonneg (add_nonneg ?_ ?_) ?_) ?_
  · exact sum_map_nonneg _ _ fun _ _ => absQ_nonneg _
  · exact sum_map_nonneg _ _ fun _ _ => absQ_nonneg _
  · exact mul_nonneg hn (IsBin.ite isBin_zero isBin_one).nonneg
  · exact mul_nonneg major_novel_each_pos.le (Nat.cast_nonneg _)

/-- **planted_spec_zero** zero-error evidence gives the planted multiset the documented score 0 -/
theorem planted_spec_zero (I : MajorInst) (k : String → Nat) (hP : Planted I k) : I.specMajor k = 0 := by
  -- the helpers of the planted point are tight (`0 = |0|`), so its objective, which is 0, is the score
  have htight : ∀ m ∈ I.errRows, plantedσ I k (.ABS m) = |plantedσ I k (.E m)| := fun m _ => by
    rw [planted_E, planted_ABS, abs_zero]
  exact ((planted_determined I k hP).objective_of_tight htight).symm.trans (planted_major_feasible I k hP).2

/-- **planted_is_least_documented** -/
theorem planted_is_least_documented (I : MajorInst) (k : String → Nat) (hP : Planted I k) (hn : 0 ≤ I.majorNovel) :
    Admissible I k ∧ ∀ k', I.specMajor k ≤ I.specMajor k' := by
  refine ⟨planted_admissible I k hP, ?_⟩
  intro k'
  rw [planted_spec_zero I k hP]
  exact specMajor_nonneg I k' hn

/-- **optimum_spec_zero_of_planted** with zero-error evidence every optimum of the major ILP selects
an admissible multiset of documented score 0, and its objective is 0 -/
theorem optimum_spec_zero_of_planted (I : MajorInst) (k : String → Nat) (hP : Planted I k) (hn : 0 ≤ I.majorNovel)
    (σ : MVar → Rat) (h : I.build.Sat σ) (hopt : ∀ τ, I.build.Sat τ → I.build.objective σ ≤ I.build.objective τ)
    (hnames : (I.alleles.map (·.name)).Nodup) (hops : ∀ m ∈ I.funcMuts, (m.op == "_") = false) :
    Admissible I (kOf I σ) ∧ I.specMajor (kOf I σ) = 0 ∧ I.build.objective σ = 0 := by
  -- the decision of an optimum scores least among the admissible multisets, and the planted one scores 0
  obtain ⟨hA, hobj, hmin⟩ := major_optimal_score_is_least_documented I σ h hopt hnames hops
  have h0 : I.specMajor (kOf I σ) = 0 :=
    le_antisymm ((hmin k (planted_admissible I k hP)).trans_eq (planted_spec_zero I k hP)) (specMajor_nonneg I _ hn)
  exact ⟨hA, h0, hobj.trans h0⟩

end Aldy
