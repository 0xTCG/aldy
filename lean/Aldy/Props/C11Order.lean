import Aldy.Props.C11

/-!
# C11 — for two called copies the printed diplotype does not depend on their order

With exactly two copies the tandem list plays no part (`estimate_diplotype` pairs tandems only for
more than two copies) and copy 0 ends on one haplotype, copy 1 on the other, so the final natural
sort alone decides what is shown.  That two different names have different natural-sort keys is a
hypothesis (`keyLt` decides them one way or the other), decided per input by the driver.
-/

namespace Aldy

theorem chunkLt_asymm (a b : Chunk) (h : chunkLt a b = true) : chunkLt b a = false := by
  cases a <;> cases b <;> simp only [chunkLt, decide_eq_true_eq, decide_eq_false_iff_not] at h ⊢
  · exact List.lt_asymm h
  · cases h
  · omega

theorem keyLt_asymm : ∀ (a b : List Chunk), keyLt a b = true → keyLt b a = false
  | [], [], h => by cases h
  | [], _ :: _, _ => rfl
  | _ :: _, [], h => by cases h
  | x :: xs, y :: ys, h => by
    rw [keyLt] at h ⊢
    by_cases h1 : chunkLt x y = true
    · rw [if_neg (Bool.eq_false_iff.mp (chunkLt_asymm x y h1)), if_pos h1]
    · rw [if_neg h1] at h
      by_cases h2 : chunkLt y x = true
      · rw [if_pos h2] at h; cases h
      · rw [if_neg h2] at h
        rw [if_neg h2, if_neg h1]
        exact keyLt_asymm xs ys h

theorem two_state (I : DipIn) (a b : String) (h : I.majors = [a, b]) :
    phaseFix (lastState I) = ([Item.one 0], [Item.one 1]) := by
  have hg : phaseGroup I = dictAppend (dictAppend [] (realKey a) 0) (realKey b) 1 := by
    unfold phaseGroup
    rw [h]
    cases I.delAllele <;> simp [List.zipIdx]
  have ht : ∀ s, phaseTandem I s = s := by
    intro s; unfold phaseTandem; rw [h]; simp
  rw [lastState, ht, hg]
  -- one allele number: `phaseEven` splits its two copies; two: `phaseRest` puts one on each side in turn
  by_cases hk : realKey a = realKey b
  · simp [dictAppend, hk, phaseEven, DipState.addTo, phaseDup, phaseRest, phaseFix]
  · simp [dictAppend, hk, phaseEven, phaseDup, phaseRest, phaseFix, dictGet, dictSet, balance, DipState.side,
      DipState.addTo, xlen, Item.xlen]

/-- **diplotype_two_arrangement** two called copies are always put on different haplotypes -/
theorem diplotype_two_arrangement (I : DipIn) (a b : String) (h : I.majors = [a, b]) :
    estimateDiplotype I =
      sortStable (fun x y => keysLt (x.map fun i => natKey (nameOf I i)) (y.map fun i => natKey (nameOf I i)))
        [[0], [1]] := by
  rw [estimateDiplotype_eq, two_state I a b h]
  rfl

def shownNames (I : DipIn) : List (List String) := (estimateDiplotype I).map fun h => h.map (nameOf I)

theorem keysLt_single (x y : List Chunk) : keysLt [x] [y] = keyLt x y := by
  cases h : keyLt x y <;> simp [keysLt, h]

theorem shown_two (I : DipIn) (a b na nb : String) (hm : I.majors = [a, b]) (hn : I.names = [na, nb]) :
    shownNames I = if keyLt (natKey nb) (natKey na) then [[nb], [na]] else [[na], [nb]] := by
  have h0 : nameOf I 0 = na := by simp [nameOf, hn]
  have h1 : nameOf I 1 = nb := by simp [nameOf, hn]
  unfold shownNames
  rw [diplotype_two_arrangement I a b hm, sortStable_two]
  simp only [List.map_cons, List.map_nil, h0, h1, keysLt_single]
  split_ifs <;> simp [h0, h1]

/-- **diplotype_two_order_independent** the names shown for two called copies do not depend on
the order in which the copies were produced (same gene: deletion allele and tandem list may be
anything), provided different names have different natural-sort keys -/
theorem diplotype_two_order_independent (I J : DipIn) (a b na nb : String)
    (hI : I.majors = [a, b]) (hIn : I.names = [na, nb]) (hJ : J.majors = [b, a]) (hJn : J.names = [nb, na])
    (hkeys : na ≠ nb → keyLt (natKey na) (natKey nb) = true ∨ keyLt (natKey nb) (natKey na) = true) :
    shownNames I = shownNames J := by
  rw [shown_two I a b na nb hI hIn, shown_two J b a nb na hJ hJn]
  by_cases hba : keyLt (natKey nb) (natKey na) = true
  · have hab := keyLt_asymm _ _ hba
    simp [hba, hab]
  · by_cases hab : keyLt (natKey na) (natKey nb) = true
    · simp [hba, hab]
    · have : na = nb := by
        by_contra hne
        rcases hkeys hne with h | h
        · exact hab h
        · exact hba h
      subst this
      simp

/-- a single called copy is shown with the deletion placeholder on the
other haplotype when the gene has a deletion allele (there is only one order) -/
example : shownNames { majors := ["2"], names := ["2"], delAllele := some "5", tandems := [] } = [["2"], ["5"]] := by
  decide +kernel

example : shownNames { majors := ["10", "2"], names := ["10", "2"], delAllele := some "5", tandems := [("2", "10")] }
    = shownNames { majors := ["2", "10"], names := ["2", "10"], delAllele := some "5", tandems := [("2", "10")] } :=
  diplotype_two_order_independent _ _ "10" "2" "10" "2" rfl rfl rfl rfl (by intro _; right; decide +kernel)

end Aldy
