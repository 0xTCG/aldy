import Aldy.Model.Guards
import Mathlib.Tactic.NormNum

/-!
# C19 — no genotype is reported from no data

`guard_proceed_iff` says when the chain of tests `guard` lets a sample through; `no_reads_no_call`,
`zero_depth_no_call` and `proceed_means_data` are its corollaries.
-/

namespace Aldy

/-- The average-depth guard of the current source does not depend on where the gene
structure comes from (regenerated constant: the guard has no `profile.cn_region` conjunct). -/
theorem guard_independent_of_structure_source : Const.GUARD_REQUIRES_CN_REGION = false := by decide

/-- a locus without any read has average depth 0 -/
theorem avg_of_no_reads : (Cov.mk [] []).averageCoverage = 0 := zero_div _

/-- positions whose only entries are empty do not raise the average either -/
theorem total_of_empty_position (c : Cov) (pos : Int) (h : c.ops pos = []) : c.totalPos pos = 0 := by
  simp [Cov.totalPos, h]

theorem guard_proceed_iff (i : GuardIn) : guard i = .proceed ↔
    (i.hasCnRegion = true → i.neutralSum ≠ 0 ∧ i.neutralValue / i.neutralSum ≠ 0 ∧
      Const.DIPLOID_MIN_COV ≤ i.neutralSum / i.neutralLen) ∧
    (i.kindVcf = false → i.minAvgCov ≤ i.avgCov) := by
  unfold guard
  rw [guard_independent_of_structure_source]
  -- every earlier outcome differs from `proceed`: the chain ends there iff all four tests fail
  simp only [ite_eq_iff, reduceCtorEq, and_false, false_or, and_true]
  -- the tests in words, the three about the neutral region under one hypothesis
  simp only [Bool.not_false, Bool.true_or, Bool.and_true, Bool.and_eq_true, beq_iff_eq, decide_eq_true_eq,
    Bool.not_eq_true', not_and, not_lt, ← imp_and, ← and_assoc]

/-- **no_reads_no_call** for alignment input, an average depth below the configured minimum —
in particular depth 0 of a locus no read covers, with any positive minimum — never proceeds
to calling, whether the structure is estimated (neutral region present) or user-supplied. -/
theorem no_reads_no_call (i : GuardIn) (hk : i.kindVcf = false) (hlow : i.avgCov < i.minAvgCov) :
    guard i ≠ .proceed := fun h => not_le.mpr hlow (((guard_proceed_iff i).mp h).2 hk)

theorem zero_depth_no_call (i : GuardIn) (hk : i.kindVcf = false) (h0 : i.avgCov = 0) (hmin : 0 < i.minAvgCov) :
    guard i ≠ .proceed := no_reads_no_call i hk (by rw [h0]; exact hmin)

/-- **empty_neutral_rejected** a sample without reads in the copy-number-neutral region is
rejected instead of being normalised. -/
theorem empty_neutral_rejected (i : GuardIn) (hr : i.hasCnRegion = true) (h0 : i.neutralSum = 0) :
    guard i = .emptyNeutral := by
  simp [guard, hr, h0]

/-- **proceed_means_data** calling proceeds only with enough data: adequate average depth for
alignment input, and a non-empty, adequately covered neutral region whenever one is used. -/
theorem proceed_means_data (i : GuardIn) (h : guard i = .proceed) :
    (i.kindVcf = false → i.minAvgCov ≤ i.avgCov) ∧
    (i.hasCnRegion = true → i.neutralSum ≠ 0 ∧ Const.DIPLOID_MIN_COV ≤ i.neutralSum / i.neutralLen) :=
  have ⟨hn, ha⟩ := (guard_proceed_iff i).mp h
  ⟨ha, fun hr => ⟨(hn hr).1, (hn hr).2.2⟩⟩

/-- the documented default minimum is positive (regenerated constant) -/
theorem min_avg_coverage_default_pos : 0 < Const.profileDefault "min_avg_coverage" := by decide +kernel

theorem diploid_min_pos : 0 < Const.DIPLOID_MIN_COV := by
  unfold Const.DIPLOID_MIN_COV; norm_num

example : guard ⟨false, false, 0, 2, 0, 0, 0⟩ = .lowAverageDepth := by decide +kernel
example : guard ⟨false, true, 30, 2, 12000, 12000, 400⟩ = .proceed := by decide +kernel
example : guard ⟨false, true, 30, 2, 0, 12000, 400⟩ = .emptyNeutral := by decide +kernel

end Aldy
