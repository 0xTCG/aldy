import Aldy.Lemmas.Major
import Aldy.Model.Planted

/-!
The decision a point of the major model takes is the multiset `k` of candidate alleles whose copy
selectors are on (`Selects`: the first `k a` of every allele `a`).  Over the slots of any set of alleles
the selectors of such a point sum to the number of copies `k` calls of them: this is how the sums the
model writes become the counts of the documented score `specMajor I k` (`sat_iff_of_selects`, Props/C02Spec).
-/

namespace Aldy
namespace MajorInst
variable {I : MajorInst} {σ : MVar → Rat} {k : String → Nat}

def Selects (I : MajorInst) (σ : MVar → Rat) (k : String → Nat) : Prop :=
  ∀ s ∈ I.slots, σ (va s) = if s.2 < k s.1.name then 1 else 0

theorem plantedσ_selects (I : MajorInst) (k : String → Nat) : Selects I (plantedσ I k) k := fun _ _ => rfl

/-- `Selects.sum` over any list of alleles, as its induction needs it -/
theorem sum_selected (σ : MVar → Rat) (k : String → Nat) (P : MajorA → Bool) (as : List MajorA)
    (hsel : ∀ a ∈ as, ∀ i ∈ I.copies a, σ (.A a.name i) = if i < k a.name then 1 else 0)
    (hfit : ∀ a ∈ as, k a.name ≤ max 1 (I.cn.count a.cnConfig)) :
    sumVars σ (((as.flatMap fun a => (I.copies a).map fun i => (a, i)).filter fun s => P s.1).map va) =
      plantedSum k (as.filter P) := by
  induction as with
  | nil => rfl
  | cons a as ih =>
    rw [List.flatMap_cons, List.filter_append, List.map_append, sumVars_append,
      ih (fun b hb => hsel b (List.mem_cons_of_mem _ hb)) (fun b hb => hfit b (List.mem_cons_of_mem _ hb))]
    -- the slots of `a` pass the filter together or not at all
    by_cases hP : P a
    · have hall : (((I.copies a).map fun i => (a, i)).filter fun s => P s.1) = (I.copies a).map fun i => (a, i) :=
        List.filter_eq_self.mpr (List.forall_mem_map.mpr fun _ _ => hP)
      -- `a` has `max 1 count` selectors and the first `k a` of them are on: that is `k a` of them by `hfit`
      have hone : sumVars σ (((I.copies a).map fun i => (a, i)).map va) = (k a.name : Rat) :=
        calc _ = ((I.copies a).map fun i => if i < k a.name then (1 : Rat) else 0).sum := by
              rw [List.map_map, sumVars_map]
              exact congrArg _ (List.map_congr_left (hsel a List.mem_cons_self))
          _ = _ := by rw [copies_eq_range, indicator_range_sum, Nat.min_eq_left (hfit a List.mem_cons_self)]
      rw [hall, hone, List.filter_cons_of_pos hP]
      rfl
    · have hnone : (((I.copies a).map fun i => (a, i)).filter fun s => P s.1) = [] :=
        List.filter_eq_nil_iff.mpr (List.forall_mem_map.mpr fun _ _ => hP)
      rw [hnone, List.filter_cons_of_neg hP]
      exact zero_add _

theorem Selects.sum (hsel : Selects I σ k) (hfit : ∀ a ∈ I.alleles, k a.name ≤ max 1 (I.cn.count a.cnConfig))
    (P : MajorA → Bool) :
    sumVars σ ((I.slots.filter fun s => P s.1).map va) = plantedSum k (I.alleles.filter P) :=
  sum_selected σ k P I.alleles
    (fun a ha i hi => hsel (a, i) (List.mem_flatMap.mpr ⟨a, ha, List.mem_map_of_mem hi⟩)) hfit

theorem Selects.sum_carriers (hsel : Selects I σ k)
    (hfit : ∀ a ∈ I.alleles, k a.name ≤ max 1 (I.cn.count a.cnConfig)) (m : Mut) :
    sumVars σ ((I.carriers m).map va) = I.carriersCount k m :=
  hsel.sum hfit fun a => a.func.contains m

theorem Selects.sum_refCarriers (hsel : Selects I σ k)
    (hfit : ∀ a ∈ I.alleles, k a.name ≤ max 1 (I.cn.count a.cnConfig)) (pos : Int) :
    sumVars σ ((I.refCarriers pos).map va) = I.refCount k pos :=
  hsel.sum hfit fun a => I.gene.hasCoverage a.name pos && !(a.func.any fun ma => ma.pos == pos && !ma.isIns)

end MajorInst
end Aldy
