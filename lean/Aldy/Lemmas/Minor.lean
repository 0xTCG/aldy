import Aldy.Model.Minor
import Aldy.Lemmas.Gadgets

/-!
`MinorInst.Feasible I σ` is a feasible point of `MinorInst.build` in the terms of the stage (sums of
selectors, products, error rows), not of the rows `solve_minor_model` emits (`sat_iff`).  A theorem about
feasible points opens one with `sat_iff.mp h` and reads fields; a point is shown feasible by filling them in.
-/

namespace Aldy

theorem tiebreak_div_pos : 0 < Const.MINOR_TIEBREAK_DIV := by unfold Const.MINOR_TIEBREAK_DIV; norm_num

theorem novel_div_pos : 0 < Const.MINOR_NOVEL_DIV := by unfold Const.MINOR_NOVEL_DIV; norm_num

/-- what holds of the keep and add selectors of a slot holds of the two lists `phaseSel` makes for it, all
along the fold -/
theorem phaseSel_forall (I : MinorInst) (cs : MinorCand × MSlot) (r : List (Int × String)) {Q : NVar → Prop}
    (hK : ∀ m ∈ cs.1.defMuts, Q (.K m cs.2)) (hN : ∀ m ∈ I.newMuts cs.1, Q (.N m cs.2)) :
    (∀ v ∈ (I.phaseSel cs r).1, Q v) ∧ ∀ v ∈ (I.phaseSel cs r).2, Q v := by
  unfold MinorInst.phaseSel
  refine List.foldlRecOn (motive := fun acc : List NVar × List NVar => (∀ v ∈ acc.1, Q v) ∧ ∀ v ∈ acc.2, Q v) _ _
    ⟨fun _ => nofun, fun _ => nofun⟩ ?_
  intro acc hacc m _
  -- a step leaves the two lists alone or appends one selector `w` to one of them
  have app : ∀ w, Q w → ∀ b : Bool,
      (∀ v ∈ (if b = true then (acc.1 ++ [w], acc.2) else (acc.1, acc.2 ++ [w])).1, Q v) ∧
      ∀ v ∈ (if b = true then (acc.1 ++ [w], acc.2) else (acc.1, acc.2 ++ [w])).2, Q v := fun w hw b => by
    split
    · exact ⟨List.forall_mem_append.mpr ⟨hacc.1, List.forall_mem_singleton.mpr hw⟩, hacc.2⟩
    · exact ⟨hacc.1, List.forall_mem_append.mpr ⟨hacc.2, List.forall_mem_singleton.mpr hw⟩⟩
  cases r.lookup m.pos with
  | none => exact hacc
  | some o =>
    dsimp only
    by_cases hcov : (!I.hasCov cs.1 m.pos) = true
    · rw [if_pos hcov]; exact hacc
    · rw [if_neg hcov]
      by_cases hd : cs.1.defMuts.contains m = true
      · rw [if_pos hd]; exact app _ (hK m (List.contains_iff_mem.mp hd)) _
      · rw [if_neg hd]
        by_cases hn : (I.newMuts cs.1).contains m = true
        · rw [if_pos hn]; exact app _ (hN m (List.contains_iff_mem.mp hn)) _
        · rw [if_neg hn]; exact hacc

theorem phaseSel_mem (I : MinorInst) (cs : MinorCand × MSlot) (r : List (Int × String)) :
    ∀ v, v ∈ (I.phaseSel cs r).1 ∨ v ∈ (I.phaseSel cs r).2 →
      (∃ m ∈ cs.1.defMuts, v = .K m cs.2) ∨ (∃ m ∈ I.newMuts cs.1, v = .N m cs.2) := by
  obtain ⟨h1, h2⟩ := phaseSel_forall I cs r
    (Q := fun v => (∃ m ∈ cs.1.defMuts, v = .K m cs.2) ∨ (∃ m ∈ I.newMuts cs.1, v = .N m cs.2))
    (fun m hm => Or.inl ⟨m, hm, rfl⟩) (fun m hm => Or.inr ⟨m, hm, rfl⟩)
  exact fun v hv => hv.elim (h1 v) (h2 v)

namespace MinorInst
variable {I : MinorInst} {σ : NVar → Rat}

theorem one_snd (v : NVar) : (one v).2 = v := rfl
theorem neg_snd (v : NVar) : (neg v).2 = v := rfl

theorem evalTerms_map_one {α : Type} (σ : NVar → Rat) (l : List α) (f : α → NVar) :
    evalTerms σ (l.map fun x => one (f x)) = sumVars σ (l.map f) :=
  (evalTerms_map_const σ l 1 f).trans (one_mul _)

theorem eqc_holds (σ : NVar → Rat) (ts : List (Rat × NVar)) (r : Rat) :
    (∀ c ∈ eqc ts r, c.holds σ) ↔ evalTerms σ ts = r := by
  simp only [eqc, List.forall_mem_cons, List.not_mem_nil, false_imp_iff, implies_true, and_true, LinCon.holds]
  exact ⟨fun h => le_antisymm h.2 h.1, fun h => ⟨h.ge, h.le⟩⟩

theorem mem_slots {cs : MinorCand × MSlot} : cs ∈ I.slots ↔
    cs.1 ∈ I.cands ∧ cs.2.major = cs.1.major ∧ cs.2.minor = cs.1.minor ∧ cs.2.idx < max 1 (I.count cs.1.major) := by
  simp only [slots, List.mem_append, List.mem_map, List.mem_flatMap, List.mem_filter, List.mem_range,
    decide_eq_true_eq]
  constructor
  · rintro (⟨c, hc, rfl⟩ | ⟨c, hc, i, ⟨hi, _⟩, rfl⟩)
    · exact ⟨hc, rfl, rfl, Nat.lt_of_lt_of_le Nat.one_pos (Nat.le_max_left 1 _)⟩
    · exact ⟨hc, rfl, rfl, Nat.lt_of_lt_of_le hi (Nat.le_max_right 1 _)⟩
  · obtain ⟨c, ma, mi, i⟩ := cs
    rintro ⟨hc, h1, h2, hi⟩
    dsimp only at hc h1 h2 hi
    subst h1 h2
    rcases Nat.eq_zero_or_pos i with rfl | h0
    · exact Or.inl ⟨c, hc, rfl⟩
    · exact Or.inr ⟨c, hc, i, ⟨(lt_max_iff.mp hi).resolve_left (Nat.not_lt.mpr h0), h0⟩, rfl⟩

theorem mem_newMuts {c : MinorCand} {m : Mut} :
    m ∈ I.newMuts c ↔ m ∈ I.mutations ∧ I.hasCov c m.pos = true ∧ m ∉ c.defMuts := by
  simp only [newMuts, List.mem_filter, Bool.and_eq_true, Bool.not_eq_true', List.contains_eq_mem,
    decide_eq_false_iff_not]

theorem mem_newSelectors {e : Mut × MSlot} :
    e ∈ I.newSelectors ↔ ∃ cs ∈ I.slots, e.1 ∈ I.newMuts cs.1 ∧ e.2 = cs.2 := by
  simp only [newSelectors, List.mem_flatMap, List.mem_map]
  constructor
  · rintro ⟨cs, hcs, m, hm, rfl⟩; exact ⟨cs, hcs, hm, rfl⟩
  · rintro ⟨cs, hcs, hm, h2⟩; exact ⟨cs, hcs, e.1, hm, h2 ▸ rfl⟩

theorem forall_errRows {P : Mut → Prop} :
    (∀ m ∈ I.errRows, P m) ↔ (∀ m ∈ I.mutations, P m) ∧ ∀ pos ∈ I.positions, P (refMut' pos) := by
  simp only [errRows, List.forall_mem_append, List.forall_mem_map]

theorem sum_errRows (f : Mut → Rat) :
    (I.errRows.map f).sum = (I.mutations.map f).sum + (I.positions.map fun pos => f (refMut' pos)).sum := by
  simp only [errRows, List.map_append, List.sum_append, List.map_map, Function.comp_def]

theorem mem_varTerms {m : Mut} {t : Rat × NVar} (ht : t ∈ I.varTerms m) :
    ∃ cs ∈ I.slots, (m ∈ cs.1.defMuts ∧ t = one (.MULK m cs.2)) ∨
      (m ∉ cs.1.defMuts ∧ I.hasCov cs.1 m.pos = true ∧ t = one (.MULN m cs.2)) := by
  obtain ⟨cs, hcs, ht⟩ := List.mem_filterMap.mp ht
  refine ⟨cs, hcs, ?_⟩
  split_ifs at ht with h1 h2
  · exact Or.inl ⟨List.contains_iff_mem.mp h1, (Option.some.inj ht).symm⟩
  · exact Or.inr ⟨mt List.contains_iff_mem.mpr h1, h2, (Option.some.inj ht).symm⟩

theorem mem_refTerms {pos : Int} {t : Rat × NVar} (ht : t ∈ I.refTerms pos) :
    ∃ cs ∈ I.slots, t = one (.A cs.2) ∨ (∃ p ∈ cs.1.defMuts, t = neg (.MULK p cs.2)) ∨
      (∃ m ∈ I.newMuts cs.1, t = neg (.MULN m cs.2)) := by
  obtain ⟨cs, hcs, ht⟩ := List.mem_flatMap.mp ht
  refine ⟨cs, hcs, ?_⟩
  have hnew : ∀ t ∈ (I.newAt cs.1 pos).map fun m => neg (.MULN m cs.2),
      ∃ m ∈ I.newMuts cs.1, t = neg (.MULN m cs.2) :=
    List.forall_mem_map.mpr fun m hm => ⟨m, (List.mem_filter.mp hm).1, rfl⟩
  split_ifs at ht
  · cases ht
  · split at ht
    · rename_i p _ hp
      have hp' : p ∈ cs.1.defMuts := (List.mem_filter.mp (hp ▸ List.mem_cons_self : p ∈ presentAt cs.1 pos)).1
      rcases List.mem_append.mp ht with ht | ht
      · rcases List.mem_cons.mp ht with rfl | ht
        · exact Or.inl rfl
        · exact Or.inr (Or.inl ⟨p, hp', List.mem_singleton.mp ht⟩)
      · exact Or.inr (Or.inr (hnew t ht))
    · rcases List.mem_cons.mp ht with rfl | ht
      · exact Or.inl rfl
      · exact Or.inr (Or.inr (hnew t ht))

theorem mem_carrierTerms {m : Mut} {t : Rat × NVar} (ht : t ∈ I.carrierTerms m) :
    ∃ cs ∈ I.slots, (m ∈ cs.1.defMuts ∧ t = one (.MULK m cs.2)) ∨ (m ∈ I.newMuts cs.1 ∧ t = one (.MULN m cs.2)) := by
  simp only [carrierTerms, List.mem_append, List.mem_filterMap, Option.ite_none_right_eq_some, Option.some.injEq,
    List.contains_eq_mem, decide_eq_true_eq] at ht
  rcases ht with ⟨cs, hcs, hm, rfl⟩ | ⟨cs, hcs, hm, rfl⟩
  · exact ⟨cs, hcs, Or.inl ⟨hm, rfl⟩⟩
  · exact ⟨cs, hcs, Or.inr ⟨hm, rfl⟩⟩

theorem mem_novelCoreSel {m : Mut} {v : NVar} (hv : v ∈ I.novelCoreSel m) :
    ∃ cs ∈ I.slots, m ∈ I.newMuts cs.1 ∧ v = .N m cs.2 := by
  obtain ⟨cs, hcs, hsome⟩ := List.mem_filterMap.mp hv
  split_ifs at hsome with hc
  simp only [Bool.and_eq_true, List.contains_eq_mem, decide_eq_true_eq] at hc
  exact ⟨cs, hcs, hc.1.1, (Option.some.inj hsome).symm⟩

/-- `phaseSel_forall` for a phase cell: its selectors are those `phaseSel` lists for the cell's slot -/
theorem phaseCell_forall {Q : NVar → Prop} (hK : ∀ cs ∈ I.slots, ∀ m ∈ cs.1.defMuts, Q (.K m cs.2))
    (hN : ∀ cs ∈ I.slots, ∀ m ∈ I.newMuts cs.1, Q (.N m cs.2)) {c : PhaseCell} (hc : c ∈ I.phaseCells) :
    (∀ vi ∈ c.pos.zipIdx, Q vi.1) ∧ ∀ vi ∈ c.neg.zipIdx, Q vi.1 := by
  obtain ⟨rc, _, hc⟩ := List.mem_flatMap.mp hc
  obtain ⟨ca, hca, hsome⟩ := List.mem_filterMap.mp hc
  dsimp only at hsome
  split_ifs at hsome
  cases hsome
  have hcs := List.fst_mem_of_mem_zipIdx hca
  obtain ⟨h1, h2⟩ := phaseSel_forall I ca.1 rc.1.1 (hK ca.1 hcs) (hN ca.1 hcs)
  exact ⟨fun vi hvi => h1 vi.1 (List.fst_mem_of_mem_zipIdx hvi), fun vi hvi => h2 vi.1 (List.fst_mem_of_mem_zipIdx hvi)⟩

theorem phaseCell_bin (bK : ∀ cs ∈ I.slots, ∀ m ∈ cs.1.defMuts, IsBin (σ (.K m cs.2)))
    (bN : ∀ cs ∈ I.slots, ∀ m ∈ I.newMuts cs.1, IsBin (σ (.N m cs.2))) {c : PhaseCell} (hc : c ∈ I.phaseCells) :
    (∀ vi ∈ c.pos.zipIdx, IsBin (σ vi.1)) ∧ ∀ vi ∈ c.neg.zipIdx, IsBin (σ vi.1) :=
  phaseCell_forall (Q := fun v => IsBin (σ v)) bK bN hc

theorem consCORD_holds : (∀ c ∈ I.consCORD, c.holds σ) ↔
    ∀ cs ∈ I.slots, cs.2.idx > 0 → σ (.A cs.2) ≤ σ (.A { cs.2 with idx := cs.2.idx - 1 }) := by
  simp only [consCORD, List.forall_mem_map, List.forall_mem_filter, leVar_holds, decide_eq_true_eq]

theorem consCCNT_holds : (∀ c ∈ I.consCCNT, c.holds σ) ↔
    (∀ mc ∈ I.majorSol,
      sumVars σ ((I.slots.filter fun cs => cs.1.major == mc.1).map fun cs => .A cs.2) = (mc.2 : Rat)) ∧
    sumVars σ (I.slots.map fun cs => .A cs.2) ≤ (((I.majorSol.map (·.2)).sum : Nat) : Rat) := by
  simp only [consCCNT, List.forall_mem_append, List.forall_mem_flatMap, holds_le_ge, List.forall_mem_singleton,
    LinCon.holds_le, evalTerms_map_one]

/-- the rows of `model.prod` are exact on 0/1 values only: hence the kinds as hypotheses (also in
`consPHASE_holds` and `consVNEWOR_holds`), which `sat_iff` has at hand -/
theorem consPROD_holds (bA : ∀ cs ∈ I.slots, IsBin (σ (.A cs.2)))
    (bK : ∀ cs ∈ I.slots, ∀ m ∈ cs.1.defMuts, IsBin (σ (.K m cs.2)) ∧ IsBin (σ (.MULK m cs.2)))
    (bN : ∀ cs ∈ I.slots, ∀ m ∈ I.newMuts cs.1, IsBin (σ (.N m cs.2)) ∧ IsBin (σ (.MULN m cs.2))) :
    (∀ c ∈ I.consPROD, c.holds σ) ↔
      (∀ cs ∈ I.slots, ∀ m ∈ cs.1.defMuts, m ∈ I.mutations → σ (.MULK m cs.2) = σ (.A cs.2) * σ (.K m cs.2)) ∧
      ∀ cs ∈ I.slots, ∀ m ∈ I.newMuts cs.1, σ (.MULN m cs.2) = σ (.A cs.2) * σ (.N m cs.2) := by
  simp only [consPROD, List.forall_mem_flatMap, forall_mem_ite, List.not_mem_nil, false_imp_iff, implies_true, and_true,
    List.contains_eq_mem, decide_eq_true_eq, mem_newMuts]
  have hK := fun cs hcs m hd => prod2_gadget σ (.MULK m cs.2) _ _ (bK cs hcs m hd).2 (bA cs hcs) (bK cs hcs m hd).1
  have hN := fun cs hcs m hn => prod2_gadget σ (.MULN m cs.2) _ _ (bN cs hcs m hn).2 (bA cs hcs) (bN cs hcs m hn).1
  -- the rows are laid out variant by variant, an add selector exists where `newMuts` says
  constructor
  · intro h
    exact ⟨fun cs hcs m hd hm => (hK cs hcs m hd).mp ((h m hm cs hcs).1 hd),
      fun cs hcs m hn => (hN cs hcs m (mem_newMuts.mpr hn)).mp ((h m hn.1 cs hcs).2 hn.2.2 hn.2.1)⟩
  · intro h m hm cs hcs
    exact ⟨fun hd => (hK cs hcs m hd).mpr (h.1 cs hcs m hd hm),
      fun hd hcov => (hN cs hcs m (mem_newMuts.mpr ⟨hm, hcov, hd⟩)).mpr (h.2 cs hcs m ⟨hm, hcov, hd⟩)⟩

theorem consCONE_holds : (∀ c ∈ I.consCONE, c.holds σ) ↔ ∀ pos ∈ I.positions, ∀ cs ∈ I.slots,
    I.hasCov cs.1 pos = true → presentAt cs.1 pos = [] → sumVars σ ((I.newAt cs.1 pos).map fun m => .N m cs.2) ≤ 1 := by
  simp only [consCONE, List.forall_mem_flatMap, List.forall_mem_filterMap, Option.ite_none_right_eq_some,
    Option.some.injEq, Bool.and_eq_true, List.isEmpty_iff, and_imp]
  refine forall₂_congr fun pos _ => forall₂_congr fun cs _ => ?_
  rw [← evalTerms_map_one]
  -- the slot has this one row `c`, or none
  exact ⟨fun h hcov hnone => h _ hcov hnone rfl, fun h c hcov hnone e => e ▸ h hcov hnone⟩

theorem consCCOV_holds : (∀ c ∈ I.consCCOV, c.holds σ) ↔
    (∀ m ∈ I.mutations, σ (.E m) = I.observed m - evalTerms σ (I.varTerms m)) ∧
    (∀ pos ∈ I.positions, σ (.E (refMut' pos)) = I.observed (refMut' pos) - evalTerms σ (I.refTerms pos)) := by
  simp only [consCCOV, List.forall_mem_append, List.forall_mem_flatMap, eqc_holds, evalTerms_append, evalTerms_cons,
    evalTerms_nil, one, one_mul, add_zero, eq_sub_iff_add_eq']

theorem consRULE1_holds : (∀ c ∈ I.consRULE1, c.holds σ) ↔
    (∀ cs ∈ I.slots, ∀ m ∈ cs.1.defMuts, σ (.K m cs.2) ≤ σ (.A cs.2)) ∧
    (∀ cs ∈ I.slots, ∀ m ∈ I.newMuts cs.1, σ (.N m cs.2) ≤ σ (.A cs.2)) := by
  simp only [consRULE1, List.forall_mem_append, List.forall_mem_flatMap, List.forall_mem_map, leVar_holds]

theorem consRULE2_holds : (∀ c ∈ I.consRULE2, c.holds σ) ↔ ∀ cs ∈ I.slots, ∀ m ∈ cs.1.defMuts,
    I.gene.isFunctional m = true → σ (.A cs.2) ≤ σ (.K m cs.2) := by
  simp only [consRULE2, List.forall_mem_flatMap, List.forall_mem_map, List.forall_mem_filter, LinCon.holds,
    evalTerms_cons, evalTerms_nil, one, neg, one_mul, neg_one_mul, add_zero, ge_iff_le, ← sub_eq_add_neg, sub_nonneg]

theorem consRULE3_holds : (∀ c ∈ I.consRULE3, c.holds σ) ↔ ∀ cs ∈ I.slots, ∀ m ∈ cs.1.defMuts,
    I.hasCov cs.1 m.pos = false → σ (.K m cs.2) ≤ 0 := by
  simp only [consRULE3, List.forall_mem_flatMap, List.forall_mem_map, List.forall_mem_filter, LinCon.holds,
    evalTerms_cons, evalTerms_nil, one, one_mul, add_zero, Bool.not_eq_true']

theorem consRULE4_holds : (∀ c ∈ I.consRULE4, c.holds σ) ↔
    (∀ pos ∈ I.positions, ∀ cs ∈ I.slots, (I.addAt cs.1 pos).length > 1 →
      sumVars σ ((I.addAt cs.1 pos).map fun m => .MULN m cs.2) ≤ 1) ∧
    (∀ pos ∈ I.positions, ∀ cs ∈ I.slots, (I.addAt cs.1 pos).length + (keptAt cs.1 pos).length > 1 →
      sumVars σ ((keptAt cs.1 pos).map fun m => .MULK m cs.2) +
        sumVars σ ((I.addAt cs.1 pos).map fun m => .MULN m cs.2) ≤ 1) := by
  simp only [consRULE4, List.forall_mem_flatMap, List.forall_mem_append, forall_mem_ite, List.forall_mem_singleton,
    List.not_mem_nil, false_imp_iff, implies_true, and_true, List.length_map, LinCon.holds, evalTerms_append,
    evalTerms_map_one, forall₂_and]

theorem consRULE5_holds : (∀ c ∈ I.consRULE5, c.holds σ) ↔
    (∀ m ∈ I.mutations, (I.cn.positionCn I.gene m.pos == 0 || I.cov.coverage m == 0) = true →
      evalTerms σ (I.carrierTerms m) ≤ 0) ∧
    (∀ m ∈ I.mutations, (I.cn.positionCn I.gene m.pos == 0 || I.cov.coverage m == 0) = false →
      1 ≤ evalTerms σ (I.carrierTerms m) ∧ evalTerms σ (I.carrierTerms m) ≤ I.cov.coverage m) := by
  simp only [consRULE5, List.forall_mem_flatMap, forall_mem_ite, List.forall_mem_cons, List.not_mem_nil, false_imp_iff,
    implies_true, and_true, LinCon.holds, ge_iff_le, Bool.not_eq_true, forall₂_and, and_comm (a := _ ≤ I.cov.coverage _)]

theorem consRULE6_holds : (∀ c ∈ I.consRULE6, c.holds σ) ↔ I.slots ≠ [] → ∀ pos ∈ I.positions,
    evalTerms σ ((I.rule6Per pos).flatMap (·.2)) ≤ I.rule6Rhs pos := by
  simp only [consRULE6, forall_mem_ite, List.not_mem_nil, false_imp_iff, implies_true, true_and, List.forall_mem_map,
    LinCon.holds_le, List.isEmpty_iff, ne_eq]

theorem consPHASE_holds (bK : ∀ cs ∈ I.slots, ∀ m ∈ cs.1.defMuts, IsBin (σ (.K m cs.2)))
    (bN : ∀ cs ∈ I.slots, ∀ m ∈ I.newMuts cs.1, IsBin (σ (.N m cs.2)))
    (bPH : ∀ c ∈ I.phaseCells, IsBin (σ (.PH c.ai c.ri)) ∧ (∀ vi ∈ c.pos.zipIdx, IsBin (σ (.PH2 c.ai c.ri vi.2))) ∧
      ∀ vi ∈ c.neg.zipIdx, IsBin (σ (.PH3 c.ai c.ri vi.2))) :
    (∀ c ∈ I.consPHASE, c.holds σ) ↔
      (∀ c ∈ I.phaseCells, σ (.PH c.ai c.ri) ≤ σ (.A c.slot)) ∧
      (∀ c ∈ I.phaseCells, ∀ vi ∈ c.pos.zipIdx, σ (.PH2 c.ai c.ri vi.2) = σ (.PH c.ai c.ri) * σ vi.1) ∧
      (∀ c ∈ I.phaseCells, ∀ vi ∈ c.neg.zipIdx, σ (.PH3 c.ai c.ri vi.2) = σ (.PH c.ai c.ri) * σ vi.1) ∧
      ∀ ri < I.phases.length, I.phaseCells.filter (·.ri == ri) ≠ [] →
        sumVars σ ((I.phaseCells.filter (·.ri == ri)).map fun c => .PH c.ai c.ri) = 1 := by
  simp only [consPHASE, List.forall_mem_append, List.forall_mem_flatMap, List.forall_mem_cons, leVar_holds,
    List.mem_range, forall_mem_ite, List.not_mem_nil, false_imp_iff, implies_true, true_and, and_true, and_assoc,
    LinCon.holds_le, LinCon.holds_ge, ← le_antisymm_iff, List.isEmpty_iff, List.map_eq_nil_iff, ne_eq,
    evalTerms_map_one, forall₂_and]
  have bSel := fun c hc => phaseCell_bin bK bN (c := c) hc
  exact and_congr_right' (and_congr
    (forall₂_congr fun c hc => forall₂_congr fun vi hvi =>
      prod2_gadget σ _ _ _ ((bPH c hc).2.1 vi hvi) (bPH c hc).1 ((bSel c hc).1 vi hvi))
    (and_congr_left' (forall₂_congr fun c hc => forall₂_congr fun vi hvi =>
      prod2_gadget σ _ _ _ ((bPH c hc).2.2 vi hvi) (bPH c hc).1 ((bSel c hc).2 vi hvi))))

theorem consABS_holds : (∀ c ∈ I.consABS, c.holds σ) ↔ ∀ m ∈ I.errRows, |σ (.E m)| ≤ σ (.ABS m) := by
  simp only [consABS, List.forall_mem_flatMap, abs_gadget]

theorem consVNEWOR_holds (bN : ∀ cs ∈ I.slots, ∀ m ∈ I.newMuts cs.1, IsBin (σ (.N m cs.2)))
    (bV : ∀ m ∈ I.novelMuts, IsBin (σ (.VNEWOR m))) :
    (∀ c ∈ I.consVNEWOR, c.holds σ) ↔
      ∀ m ∈ I.novelMuts, σ (.VNEWOR m) = 1 ↔ ∃ v ∈ I.novelCoreSel m, σ v = 1 := by
  simp only [consVNEWOR, List.forall_mem_flatMap]
  refine forall₂_congr fun m hm => or_gadget σ _ _ (bV m hm) fun v hv => ?_
  obtain ⟨cs, hcs, hn, rfl⟩ := mem_novelCoreSel hv
  exact bN cs hcs m hn

theorem vars_ok : (∀ vk ∈ I.build.vars, vk.2.ok (σ vk.1)) ↔
    (∀ cs ∈ I.slots, IsBin (σ (.A cs.2))) ∧
    (∀ cs ∈ I.slots, ∀ m ∈ cs.1.defMuts, IsBin (σ (.K m cs.2)) ∧ IsBin (σ (.MULK m cs.2))) ∧
    (∀ cs ∈ I.slots, ∀ m ∈ I.newMuts cs.1, IsBin (σ (.N m cs.2)) ∧ IsBin (σ (.MULN m cs.2))) ∧
    (∀ m ∈ I.errRows, 0 ≤ σ (.ABS m)) ∧
    (∀ m ∈ I.novelMuts, IsBin (σ (.VNEWOR m))) ∧
    (∀ c ∈ I.phaseCells, IsBin (σ (.PH c.ai c.ri)) ∧ (∀ vi ∈ c.pos.zipIdx, IsBin (σ (.PH2 c.ai c.ri vi.2))) ∧
      (∀ vi ∈ c.neg.zipIdx, IsBin (σ (.PH3 c.ai c.ri vi.2)))) := by
  simp only [build, List.forall_mem_append, List.forall_mem_map, List.forall_mem_flatMap, List.forall_mem_cons,
    List.not_mem_nil, false_imp_iff, implies_true, and_true, Kind.ok_bin, Kind.ok_free, Kind.ok_cont_lb, and_assoc]

structure Feasible (I : MinorInst) (σ : NVar → Rat) : Prop where
  binA : ∀ cs ∈ I.slots, IsBin (σ (.A cs.2))
  binK : ∀ cs ∈ I.slots, ∀ m ∈ cs.1.defMuts, IsBin (σ (.K m cs.2))
  /-- every definition variant has a product helper, but only a considered one has the rows that make
  it a product (`mulK`): the helper of a definition variant outside `I.mutations` is 0/1 and nothing more.
  `estimate_minor` considers every definition variant of every candidate (minor.py 45-53); theorems that
  need it of the instance say so (`hdef` in Props/C01Minor, Props/C04Spec, Props/C04Decision). -/
  binMULK : ∀ cs ∈ I.slots, ∀ m ∈ cs.1.defMuts, IsBin (σ (.MULK m cs.2))
  binN : ∀ cs ∈ I.slots, ∀ m ∈ I.newMuts cs.1, IsBin (σ (.N m cs.2))
  binVNEWOR : ∀ m ∈ I.novelMuts, IsBin (σ (.VNEWOR m))
  binPH : ∀ c ∈ I.phaseCells, IsBin (σ (.PH c.ai c.ri))
  /-- copy `i` of a candidate only after copy `i - 1` (`CORD_*`) -/
  ord : ∀ cs ∈ I.slots, cs.2.idx > 0 → σ (.A cs.2) ≤ σ (.A { cs.2 with idx := cs.2.idx - 1 })
  /-- as many copies of a major allele as the major solution calls (`CCNT_*`), and no more copies in all
  (`CCNT_OTHER`) -/
  fill : ∀ mc ∈ I.majorSol,
    sumVars σ ((I.slots.filter fun cs => cs.1.major == mc.1).map fun cs => .A cs.2) = (mc.2 : Rat)
  total : sumVars σ (I.slots.map fun cs => .A cs.2) ≤ (((I.majorSol.map (·.2)).sum : Nat) : Rat)
  /-- a copy carries a variant when it is selected and keeps it, or gains it (`model.prod`).  That
  `MULN m`, and below `PH2`, `PH3`, are 0/1 follows and is no field. -/
  mulK : ∀ cs ∈ I.slots, ∀ m ∈ cs.1.defMuts, m ∈ I.mutations → σ (.MULK m cs.2) = σ (.A cs.2) * σ (.K m cs.2)
  mulN : ∀ cs ∈ I.slots, ∀ m ∈ I.newMuts cs.1, σ (.MULN m cs.2) = σ (.A cs.2) * σ (.N m cs.2)
  /-- at most one variant is added at a site where the allele has none, insertions aside (`CONE_*`) -/
  one : ∀ pos ∈ I.positions, ∀ cs ∈ I.slots, I.hasCov cs.1 pos = true → presentAt cs.1 pos = [] →
    sumVars σ ((I.newAt cs.1 pos).map fun m => .N m cs.2) ≤ 1
  /-- the error variables are what the selection leaves of a variant row and of a reference row (`CCOV_*`) -/
  errVar : ∀ m ∈ I.mutations, σ (.E m) = I.observed m - evalTerms σ (I.varTerms m)
  errRef : ∀ pos ∈ I.positions, σ (.E (refMut' pos)) = I.observed (refMut' pos) - evalTerms σ (I.refTerms pos)
  /-- rule 1: variants are kept and added on selected copies only (`CVK_*`, `CVN_*`) -/
  keepLe : ∀ cs ∈ I.slots, ∀ m ∈ cs.1.defMuts, σ (.K m cs.2) ≤ σ (.A cs.2)
  addLe : ∀ cs ∈ I.slots, ∀ m ∈ I.newMuts cs.1, σ (.N m cs.2) ≤ σ (.A cs.2)
  /-- rule 2: a selected copy keeps its functional variants (`CFUNC_*`) -/
  coreKept : ∀ cs ∈ I.slots, ∀ m ∈ cs.1.defMuts, I.gene.isFunctional m = true → σ (.A cs.2) ≤ σ (.K m cs.2)
  /-- rule 3: nothing is kept where the structure of the allele has no gene copy (`CZERO_*`) -/
  uncovered : ∀ cs ∈ I.slots, ∀ m ∈ cs.1.defMuts, I.hasCov cs.1 m.pos = false → σ (.K m cs.2) ≤ 0
  /-- rule 4: a copy carries at most one variant per site (`CSINGLEFULL_*`).  The row `CSINGLE_*` over the
  added variants alone follows and is no field. -/
  perSite : ∀ pos ∈ I.positions, ∀ cs ∈ I.slots, (I.addAt cs.1 pos).length + (keptAt cs.1 pos).length > 1 →
    sumVars σ ((keptAt cs.1 pos).map fun m => .MULK m cs.2) +
      sumVars σ ((I.addAt cs.1 pos).map fun m => .MULN m cs.2) ≤ 1
  /-- rule 5: a variant without reads, or where there is no gene copy, is carried by no copy (`CNOCOV_*`);
  any other by at least one copy and by no more copies than it has reads (`CMINONE_*`, `CMAXCOV_*`) -/
  unsupported : ∀ m ∈ I.mutations, (I.cn.positionCn I.gene m.pos == 0 || I.cov.coverage m == 0) = true →
    evalTerms σ (I.carrierTerms m) ≤ 0
  supported : ∀ m ∈ I.mutations, (I.cn.positionCn I.gene m.pos == 0 || I.cov.coverage m == 0) = false →
    1 ≤ evalTerms σ (I.carrierTerms m) ∧ evalTerms σ (I.carrierTerms m) ≤ I.cov.coverage m
  /-- rule 6: the same bound for the copies left as reference at a site (`CNOCOV_*`, `CMAXCOV_*` of the
  reference row); kept as the row is written, `len(e) * A - sum(e)` slot by slot -/
  room : I.slots ≠ [] → ∀ pos ∈ I.positions, evalTerms σ ((I.rule6Per pos).flatMap (·.2)) ≤ I.rule6Rhs pos
  /-- a read-phase pattern is attributed to selected copies only (`PH_*`) -/
  phaseLe : ∀ c ∈ I.phaseCells, σ (.PH c.ai c.ri) ≤ σ (.A c.slot)
  /-- the cell has the pattern, and a selector that agrees (`PHASE2_*`) or disagrees (`PHASE3_*`) with it is on -/
  mulPos : ∀ c ∈ I.phaseCells, ∀ vi ∈ c.pos.zipIdx, σ (.PH2 c.ai c.ri vi.2) = σ (.PH c.ai c.ri) * σ vi.1
  mulNeg : ∀ c ∈ I.phaseCells, ∀ vi ∈ c.neg.zipIdx, σ (.PH3 c.ai c.ri vi.2) = σ (.PH c.ai c.ri) * σ vi.1
  /-- a pattern that some cell can take is attributed to exactly one (`PHASE4_*`) -/
  phaseOne : ∀ ri < I.phases.length, I.phaseCells.filter (·.ri == ri) ≠ [] →
    sumVars σ ((I.phaseCells.filter (·.ri == ri)).map fun c => .PH c.ai c.ri) = 1
  /-- the helpers dominate the absolute errors (`model.abssum`); their own bound `0 ≤` follows and is no field -/
  abs : ∀ m ∈ I.errRows, |σ (.E m)| ≤ σ (.ABS m)
  /-- `VNEWOR m` says that some copy gains `m` as a novel core variant (`VNEWOR1_*`, `VNEWOR2_*`) -/
  novel : ∀ m ∈ I.novelMuts, σ (.VNEWOR m) = 1 ↔ ∃ v ∈ I.novelCoreSel m, σ v = 1

theorem sat_iff : I.build.Sat σ ↔ Feasible I σ := by
  rw [Ilp.Sat, vars_ok]
  simp only [build, List.forall_mem_append, and_assoc, consCORD_holds, consCCNT_holds, consCONE_holds, consCCOV_holds,
    consRULE1_holds, consRULE2_holds, consRULE3_holds, consRULE4_holds, consRULE5_holds, consRULE6_holds, consABS_holds]
  constructor
  · rintro ⟨binA, bK, bN, -, binVNEWOR, bPH, ord, fill, total, hPROD, one, errVar, errRef, keepLe, addLe, coreKept,
      uncovered, -, perSite, unsupported, supported, room, hPHASE, abs, hVNEWOR⟩
    have binK := fun cs hcs m hm => (bK cs hcs m hm).1
    have binN := fun cs hcs m hm => (bN cs hcs m hm).1
    obtain ⟨mulK, mulN⟩ := (consPROD_holds binA bK bN).mp hPROD
    obtain ⟨phaseLe, mulPos, mulNeg, phaseOne⟩ := (consPHASE_holds binK binN bPH).mp hPHASE
    exact ⟨binA, binK, fun cs hcs m hm => (bK cs hcs m hm).2, binN, binVNEWOR, fun c hc => (bPH c hc).1, ord, fill, total,
      mulK, mulN, one, errVar, errRef, keepLe, addLe, coreKept, uncovered, perSite, unsupported, supported, room,
      phaseLe, mulPos, mulNeg, phaseOne, abs, (consVNEWOR_holds binN binVNEWOR).mp hVNEWOR⟩
  · intro h
    -- the kinds as `vars_ok` lists them: those of `MULN`, `PH2`, `PH3` come from the products
    have bK := fun cs hcs m hm => And.intro (h.binK cs hcs m hm) (h.binMULK cs hcs m hm)
    have bN := fun cs hcs m hm =>
      And.intro (h.binN cs hcs m hm) (h.mulN cs hcs m hm ▸ (h.binA cs hcs).mul (h.binN cs hcs m hm))
    have bPH := fun c hc =>
      have bSel := phaseCell_bin h.binK h.binN hc
      And.intro (h.binPH c hc) (And.intro
        (fun vi hvi => h.mulPos c hc vi hvi ▸ (h.binPH c hc).mul (bSel.1 vi hvi))
        (fun vi hvi => h.mulNeg c hc vi hvi ▸ (h.binPH c hc).mul (bSel.2 vi hvi)))
    -- `CSINGLE` from `CSINGLEFULL`: the kept products are not negative
    have single : ∀ pos ∈ I.positions, ∀ cs ∈ I.slots, (I.addAt cs.1 pos).length > 1 →
        sumVars σ ((I.addAt cs.1 pos).map fun m => .MULN m cs.2) ≤ 1 := fun pos hpos cs hcs hlen =>
      (le_add_of_nonneg_left (sumVars_nonneg σ _ (List.forall_mem_map.mpr fun m hm =>
        h.binMULK cs hcs m (List.mem_filter.mp hm).1))).trans (h.perSite pos hpos cs hcs (Nat.lt_add_right _ hlen))
    exact ⟨h.binA, bK, bN, fun m hm => (abs_nonneg _).trans (h.abs m hm), h.binVNEWOR, bPH, h.ord, h.fill, h.total,
      (consPROD_holds h.binA bK bN).mpr ⟨h.mulK, h.mulN⟩, h.one, h.errVar, h.errRef, h.keepLe, h.addLe, h.coreKept,
      h.uncovered, single, h.perSite, h.unsupported, h.supported, h.room,
      (consPHASE_holds h.binK h.binN bPH).mpr ⟨h.phaseLe, h.mulPos, h.mulNeg, h.phaseOne⟩, h.abs,
      (consVNEWOR_holds h.binN h.binVNEWOR).mpr h.novel⟩

theorem Feasible.binNew (h : Feasible I σ) {e : Mut × MSlot} (he : e ∈ I.newSelectors) : IsBin (σ (.N e.1 e.2)) := by
  obtain ⟨cs, hcs, hn, h2⟩ := mem_newSelectors.mp he
  exact h2 ▸ h.binN cs hcs e.1 hn

end MinorInst
end Aldy
