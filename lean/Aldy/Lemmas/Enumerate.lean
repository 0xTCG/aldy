import Aldy.Model.Enumerate
import Mathlib.Algebra.Order.Ring.Rat

/-!
The two inductions over `Run` from which `Props/C05.lean` reads T2-T6 (T1 is a case split): `Run.sound` (what every
execution guarantees of the yielded list) and `Run.complete_aux` (completeness modulo supersets),
over the stop test in its documented form (`rejected_iff`).
-/

namespace Aldy
variable {V : Type} [DecidableEq V]

theorem subsetB_iff (a b : List V) : subsetB a b = true ↔ ∀ x ∈ a, x ∈ b := by
  simp only [subsetB, List.all_eq_true, List.contains_iff_mem]

theorem subsetB_refl (a : List V) : subsetB a a = true := (subsetB_iff a a).mpr fun _ hx => hx

theorem subsetB_trans {a b c : List V} (h1 : subsetB a b = true) (h2 : subsetB b c = true) :
    subsetB a c = true :=
  (subsetB_iff a c).mpr fun x hx => (subsetB_iff b c).mp h2 x ((subsetB_iff a b).mp h1 x hx)

theorem okCuts_nil (q : Pt V) : okCuts ([] : List (List V)) q = true := rfl

theorem okCuts_cons (c : List V) (cs : List (List V)) (q : Pt V) :
    okCuts (c :: cs) q = true ↔ subsetB c q.act = false ∧ okCuts cs q = true := by
  simp only [okCuts, okCut, List.all_cons, Bool.and_eq_true, Bool.not_eq_true']

theorem rejected_iff {gap eps best obj : Rat} (heps : 0 < eps) :
    rejected gap eps best obj = true ↔ (1 + gap) * best + eps ≤ obj := by
  unfold rejected
  simp only [Bool.and_eq_true, decide_eq_true_eq, ge_iff_le, gt_iff_lt]
  -- above the bound the absolute value is the difference itself
  have habs : ∀ h2 : (1 + gap) * best < obj, ¬ obj - (1 + gap) * best < 0 := fun h2 =>
    not_lt.mpr (sub_nonneg.mpr h2.le)
  constructor
  · rintro ⟨h1, h2⟩
    rw [if_neg (habs h2)] at h1
    exact le_sub_iff_add_le'.mp h1
  · intro h
    have h2 := lt_of_lt_of_le (lt_add_of_pos_right _ heps) h
    rw [if_neg (habs h2)]
    exact ⟨le_sub_iff_add_le'.mpr h, h2⟩

theorem rejected_false_iff {gap eps best obj : Rat} (heps : 0 < eps) :
    rejected gap eps best obj = false ↔ obj < (1 + gap) * best + eps := by
  rw [← not_iff_not, Bool.not_eq_false, rejected_iff heps, not_lt]

theorem rejected_mono {gap eps best o1 o2 : Rat} (heps : 0 < eps) (h : o1 ≤ o2)
    (hr : rejected gap eps best o1 = true) : rejected gap eps best o2 = true :=
  (rejected_iff heps).mpr (((rejected_iff heps).mp hr).trans h)

variable {M : List (Pt V)} {gap eps : Rat} {limit : Option Nat}

theorem Run.sound {best cuts iter ps c} (h : Run M gap eps limit best cuts iter ps c) :
    (∀ p ∈ ps, p ∈ M ∧ okCuts cuts p = true) ∧
    (ps.Pairwise fun p q => subsetB p.act q.act = false ∧ p.obj ≤ q.obj) ∧
    ∀ p₀, ps.head? = some p₀ → ∀ p ∈ ps, rejected gap eps (best.getD p₀.obj) p.obj = false := by
  induction h with
  | infeasible _ | badStatus | gapStop _ _ =>
    exact ⟨fun _ hp => absurd hp List.not_mem_nil, List.Pairwise.nil, fun _ _ _ hp => absurd hp List.not_mem_nil⟩
  | @limitStop best cuts iter p ha hr _ =>
    refine ⟨fun q hq => ?_, List.pairwise_singleton _ _, ?_⟩
    · rw [List.mem_singleton.mp hq]
      exact ⟨ha.1, ha.2.1⟩
    · rintro _ ⟨⟩ q hq
      rw [List.mem_singleton.mp hq]
      exact hr
  | @more best cuts iter p ps c ha hr _ _ ih =>
    obtain ⟨hmem, hpw, hgap⟩ := ih
    -- a later point satisfies the cut made of `p.act` and the cuts `p` was found under
    have htail : ∀ q ∈ ps, subsetB p.act q.act = false ∧ okCuts cuts q = true :=
      fun q hq => (okCuts_cons _ _ _).mp (hmem q hq).2
    refine ⟨?_, ?_, ?_⟩
    · exact List.forall_mem_cons.mpr ⟨⟨ha.1, ha.2.1⟩, fun q hq => ⟨(hmem q hq).1, (htail q hq).2⟩⟩
    · -- `p` is least among the points under `cuts`, and every later point is one of them
      exact List.pairwise_cons.mpr ⟨fun q hq => ⟨(htail q hq).1, ha.2.2 q (hmem q hq).1 (htail q hq).2⟩, hpw⟩
    · -- `p` is the head, and the tail was entered with the value `p` was tested against
      rintro _ ⟨⟩
      refine List.forall_mem_cons.mpr ⟨hr, fun q hq => ?_⟩
      cases ps with
      | nil => cases hq
      | cons p₁ _ => exact hgap p₁ rfl q hq

/-- `b` is the reference value of the gap test; while the loop has not fixed it (`best = none`) it is the
objective of any argmin -/
theorem Run.complete_aux (heps : 0 < eps) {best cuts iter ps c}
    (h : Run M gap eps limit best cuts iter ps c) :
    c = true → ∀ b, (∀ p, IsArgmin M cuts p → best.getD p.obj = b) →
    ∀ q ∈ M, okCuts cuts q = true → rejected gap eps b q.obj = false →
      ∃ p ∈ ps, subsetB p.act q.act = true ∧ p.obj ≤ q.obj := by
  induction h with
  | infeasible hinf =>
    intro _ b _ q hq hc _
    rw [hinf q hq] at hc; cases hc
  | badStatus => intro hc; cases hc
  | @gapStop best cuts iter p ha hr =>
    intro _ b hb q hq hc hnr
    rw [hb p ha] at hr
    have := rejected_mono heps (ha.2.2 q hq hc) hr
    rw [this] at hnr; cases hnr
  | limitStop _ _ _ => intro hc; cases hc
  | @more best cuts iter p ps c ha hr _ hrun ih =>
    intro hc b hb q hq hcut hnr
    cases hs : subsetB p.act q.act with
    | true => exact ⟨p, List.mem_cons_self, hs, ha.2.2 q hq hcut⟩
    | false =>
      obtain ⟨p', hp', h1, h2⟩ := ih hc b (fun _ _ => hb p ha) q hq ((okCuts_cons _ _ _).mpr ⟨hs, hcut⟩) hnr
      exact ⟨p', List.mem_cons_of_mem _ hp', h1, h2⟩

end Aldy
