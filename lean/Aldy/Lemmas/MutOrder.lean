import Aldy.Model.Minor
import Aldy.Lemmas.SortStable
import Mathlib.Data.String.Basic
import Mathlib.Data.Prod.Lex

/-!
`Mut.lt` (`Model/Gene.lean`) is Python's order of the tuples `(pos, op)`; `Mut.le a b`, the failure of `Mut.lt b a`,
is the corresponding linear order, which `Mut.lt` refines (`Mut.lt_refines`): with `sortStable_pairwise` and
`sortStable_eq_of_perm` of `Lemmas/SortStable`, `sortStable Mut.lt` sorts and its result depends on the multiset of its
input only.
-/

namespace Aldy

def Mut.le (a b : Mut) : Prop := b.lt a = false

theorem Mut.lt_iff_lex (a b : Mut) : a.lt b = true ↔ toLex (a.pos, a.op) < toLex (b.pos, b.op) := by
  simp [Mut.lt, Prod.Lex.toLex_lt_toLex]

theorem Mut.le_iff_lex (a b : Mut) : Mut.le a b ↔ toLex (a.pos, a.op) ≤ toLex (b.pos, b.op) := by
  rw [Mut.le, ← not_lt, ← Mut.lt_iff_lex, Bool.not_eq_true]

theorem Mut.le_antisymm {a b : Mut} (h1 : Mut.le a b) (h2 : Mut.le b a) : a = b := by
  have h := _root_.le_antisymm ((Mut.le_iff_lex a b).mp h1) ((Mut.le_iff_lex b a).mp h2)
  cases a; cases b; simpa using h

theorem Mut.lt_refines : Refines Mut.lt Mut.le where
  trans h1 h2 := (Mut.le_iff_lex _ _).mpr (le_trans ((Mut.le_iff_lex _ _).mp h1) ((Mut.le_iff_lex _ _).mp h2))
  of_lt h := (Mut.le_iff_lex _ _).mpr (le_of_lt ((Mut.lt_iff_lex _ _).mp h))
  of_not_lt h := h

theorem insertMut_eq (x : Mut) (l : List Mut) : insertMut x l = insertStable Mut.lt x l := by
  induction l with
  | nil => rfl
  | cons y ys ih => simp only [insertMut, insertStable, ih]

theorem constructionOrder_eq (l : List Mut) (hs : Const.MINOR_MUTATIONS_SORTED = true) :
    constructionOrder l = sortStable Mut.lt l := by
  unfold constructionOrder sortStable
  rw [if_pos hs]
  exact congrArg (fun f => l.foldl f []) (funext fun acc => funext fun x => insertMut_eq x acc)

theorem insertPair_eq (x : Int × String) (l : List (Int × String)) :
    insertPair x l = insertStable (fun x y => x.1 < y.1 || (x.1 == y.1 && x.2 < y.2)) x l := by
  induction l with
  | nil => rfl
  | cons y ys ih => simp only [insertPair, insertStable, ih]

theorem sortPairs_perm (l : List (Int × String)) : (sortPairs l).Perm l := by
  unfold sortPairs
  rw [funext fun x => funext (insertPair_eq x)]
  exact foldr_insertStable_perm _ l

end Aldy
