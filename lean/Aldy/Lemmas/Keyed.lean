import Mathlib.Data.List.Forall2

/-!
Lists of key-value pairs used the way the Python code uses its dictionaries (`List.lookup` reads
the first entry of a key): maps that keep the keys, and `upsert`.  Not covered: the dictionary of
`Model/Diplotype`, which writes to the first entry of a key only and is an `upsert` only when the keys are
distinct (its lemmas are in `Props/C11`); the writes of `Model/VcfIn`, `addMeta` and `addConfig`
(`Model/Catalogue`), which no theorem looks inside, and the counter of `phaseModes` (`Model/Minor`), of which
`phase_modes_equal` (Props/C17) needs the fold step only.
-/

namespace Aldy

variable {κ α β : Type} [BEq κ] [LawfulBEq κ]

theorem lookup_map_same (l : List (κ × α)) (g : κ × α → κ × β) (hg : ∀ e, (g e).1 = e.1) (k : κ) :
    (l.map g).lookup k = (l.lookup k).map fun v => (g (k, v)).2 := by
  induction l with
  | nil => rfl
  | cons e es ih =>
    obtain ⟨a, v⟩ := e
    rw [List.map_cons, show g (a, v) = (a, (g (a, v)).2) from Prod.ext (hg _) rfl, List.lookup_cons, List.lookup_cons]
    cases h : k == a
    · exact ih
    · rw [eq_of_beq h]; rfl

theorem lookup_map_snd (g : κ → α → β) (l : List (κ × α)) (k : κ) :
    (l.map fun e => (e.1, g e.1 e.2)).lookup k = (l.lookup k).map (g k) :=
  lookup_map_same l (fun e => (e.1, g e.1 e.2)) (fun _ => rfl) k

theorem lookup_map_at (l : List (κ × α)) (k : κ) (f : α → α) (k' : κ) :
    (l.map fun e => if e.1 == k then (e.1, f e.2) else e).lookup k' =
      if k' == k then (l.lookup k').map f else l.lookup k' := by
  rw [lookup_map_same _ _ (fun e => by split <;> rfl)]
  dsimp only
  by_cases hk : (k' == k) = true
  · simp only [if_pos hk]
  · simp only [if_neg hk]
    exact Option.map_id' ..

omit [BEq κ] [LawfulBEq κ] in
theorem map_fst_map_ite (l : List (κ × α)) (p : κ × α → Prop) [DecidablePred p] (f : κ × α → α) :
    (l.map fun e => if p e then (e.1, f e) else e).map (·.1) = l.map (·.1) := by
  rw [List.map_map]
  exact List.map_congr_left fun e _ => by rw [Function.comp_apply]; split <;> rfl

theorem lookup_filter_key (p : κ → Bool) (l : List (κ × α)) (k : κ) :
    (l.filter fun e => p e.1).lookup k = if p k then l.lookup k else none := by
  induction l with
  | nil => simp
  | cons e es ih =>
    obtain ⟨a, w⟩ := e
    rw [List.filter_cons, List.lookup_cons]
    cases hk : k == a with
    | false => split <;> simp only [List.lookup_cons, hk, ih]
    | true =>
      obtain rfl := beq_iff_eq.mp hk
      cases hp : p k <;> simp [hp, ih]

theorem any_key_eq_isSome (l : List (κ × α)) (k : κ) : l.any (fun e => e.1 == k) = (l.lookup k).isSome := by
  induction l with
  | nil => rfl
  | cons e es ih =>
    rw [List.any_cons, List.lookup_cons, ih, Bool.beq_comm]
    cases k == e.1 <;> rfl

theorem any_key_of_mem_keys {l : List (κ × α)} {k : κ} (h : k ∈ l.map (·.1)) : l.any (fun e => e.1 == k) = true := by
  obtain ⟨e, he, rfl⟩ := List.mem_map.mp h
  exact List.any_eq_true.mpr ⟨e, he, beq_self_eq_true _⟩

theorem lookup_isSome_of_mem {l : List (κ × α)} {e : κ × α} (h : e ∈ l) : (l.lookup e.1).isSome = true :=
  (any_key_eq_isSome l e.1).symm.trans (any_key_of_mem_keys (List.mem_map_of_mem h))

theorem mem_of_lookup_eq_some {l : List (κ × α)} {k : κ} {v : α} (h : l.lookup k = some v) : (k, v) ∈ l := by
  obtain ⟨l₁, l₂, rfl, _⟩ := List.lookup_eq_some_iff.mp h
  exact List.mem_append_right _ List.mem_cons_self

theorem lookup_of_mem_nodup_keys {l : List (κ × α)} (h : (l.map (·.1)).Nodup) {e : κ × α} (he : e ∈ l) :
    l.lookup e.1 = some e.2 := by
  induction l with
  | nil => cases he
  | cons x xs ih =>
    rw [List.map_cons, List.nodup_cons] at h
    rw [List.lookup_cons]
    rcases List.mem_cons.mp he with rfl | he'
    · rw [beq_self_eq_true]
    · rw [beq_false_of_ne fun heq => h.1 (by rw [← heq]; exact List.mem_map_of_mem he')]
      exact ih h.2 he'

theorem find?_key_of_mem {γ : Type} (key : γ → κ) {l : List γ}
    (hnd : (l.map key).Nodup) {a : γ} (ha : a ∈ l) : l.find? (fun b => key b == key a) = some a := by
  induction l with
  | nil => cases ha
  | cons x xs ih =>
    rw [List.map_cons, List.nodup_cons] at hnd
    rw [List.find?_cons]
    rcases List.mem_cons.mp ha with rfl | ha'
    · rw [beq_self_eq_true]
    · rw [beq_false_of_ne fun e : key x = key a => hnd.1 (e ▸ List.mem_map_of_mem ha')]
      exact ih hnd.2 ha'

omit [LawfulBEq κ] in
theorem lookup_getD_rel (R : α → α → Prop) (d : α) (hd : R d d)
    {a b : List (κ × α)} (h : List.Forall₂ (fun x y => x.1 = y.1 ∧ R x.2 y.2) a b) (k : κ) :
    R ((a.lookup k).getD d) ((b.lookup k).getD d) := by
  induction h with
  | nil => exact hd
  | @cons x y xs ys hxy _ ih =>
    rw [List.lookup_cons, List.lookup_cons, ← hxy.1]
    cases k == x.1
    · exact ih
    · exact hxy.2

omit [BEq κ] [LawfulBEq κ] in
theorem nodup_keys_append {l : List (κ × α)} (h : (l.map (·.1)).Nodup) {k : κ} (hk : k ∉ l.map (·.1)) (v : α) :
    ((l ++ [(k, v)]).map (·.1)).Nodup := by
  rw [List.map_append]
  exact (List.perm_append_singleton k _).nodup_iff.mpr (List.nodup_cons.mpr ⟨hk, h⟩)

/-- `d[k] = f(d[k]) if k in d else init`, new keys at the end -/
def upsert (l : List (κ × α)) (k : κ) (f : α → α) (init : α) : List (κ × α) :=
  if l.any (fun e => e.1 == k) then l.map (fun e => if e.1 == k then (e.1, f e.2) else e) else l ++ [(k, init)]

omit [LawfulBEq κ] in
theorem upsert_nil (k : κ) (f : α → α) (init : α) : upsert ([] : List (κ × α)) k f init = [(k, init)] := rfl

theorem upsert_cons_ne {a k : κ} (h : a ≠ k) (v : α) (l : List (κ × α)) (f : α → α) (init : α) :
    upsert ((a, v) :: l) k f init = (a, v) :: upsert l k f init := by
  have ha : ¬ (a == k) = true := fun hk => h (eq_of_beq hk)
  unfold upsert
  rw [List.any_cons, Bool.eq_false_iff.mpr ha, Bool.false_or, List.map_cons, if_neg ha]
  exact (apply_ite (List.cons (a, v)) _ _ _).symm

theorem upsert_cons_self {k : κ} {l : List (κ × α)} (h : k ∉ l.map (·.1)) (v : α) (f : α → α) (init : α) :
    upsert ((k, v) :: l) k f init = (k, f v) :: l := by
  unfold upsert
  rw [List.any_cons, beq_self_eq_true, Bool.true_or, if_pos rfl, List.map_cons, if_pos (beq_self_eq_true k)]
  -- no entry of `l` has the key `k`
  refine congrArg _ ((List.map_congr_left fun e he => if_neg fun hk => ?_).trans (List.map_id' l))
  exact h (eq_of_beq hk ▸ List.mem_map_of_mem he)

omit [LawfulBEq κ] in
theorem keys_upsert (l : List (κ × α)) (k : κ) (f : α → α) (init : α) :
    (upsert l k f init).map (·.1) = if l.any (fun e => e.1 == k) then l.map (·.1) else l.map (·.1) ++ [k] := by
  unfold upsert
  split
  · exact map_fst_map_ite l (fun e => e.1 == k) fun e => f e.2
  · rw [List.map_append]; rfl

theorem nodup_keys_upsert (l : List (κ × α)) (k : κ) (f : α → α) (init : α) (h : (l.map (·.1)).Nodup) :
    ((upsert l k f init).map (·.1)).Nodup := by
  unfold upsert
  split
  · rw [map_fst_map_ite]; exact h
  · next hn => exact nodup_keys_append h (fun hk => hn (any_key_of_mem_keys hk)) init

theorem lookup_upsert (l : List (κ × α)) (k : κ) (f : α → α) (init : α) (k' : κ) :
    (upsert l k f init).lookup k' = if k' == k then some ((l.lookup k).elim init f) else l.lookup k' := by
  unfold upsert
  rw [any_key_eq_isSome]
  split
  · next h =>
    rw [lookup_map_at]
    refine ite_congr rfl (fun hk => ?_) (fun _ => rfl)
    obtain ⟨v, hv⟩ := Option.isSome_iff_exists.mp h
    rw [eq_of_beq hk, hv]; rfl
  · next h =>
    rw [List.lookup_append, List.lookup_cons, List.lookup_nil]
    cases hk : k' == k
    · exact Option.or_none
    · rw [eq_of_beq hk, Option.not_isSome_iff_eq_none.mp h]; rfl

omit [LawfulBEq κ] in
theorem filterMap_key_upsert {γ : Type} (g : κ → Option γ) (l : List (κ × α)) (k : κ) (f : α → α) (init : α)
    (h : l.any (fun e => e.1 == k) = false → g k = none) :
    (upsert l k f init).filterMap (fun x => g x.1) = l.filterMap (fun x => g x.1) := by
  have hm : ∀ l' : List (κ × α), l'.filterMap (fun x => g x.1) = (l'.map (·.1)).filterMap g :=
    fun l' => (List.filterMap_map ..).symm
  rw [hm, hm, keys_upsert]
  split
  · rfl
  · next hn =>
    rw [List.filterMap_append, List.filterMap_cons_none (h (Bool.eq_false_iff.mpr hn))]
    exact List.append_nil _

omit [LawfulBEq κ] in
theorem forall_mem_upsert (P : κ × α → Prop) (l : List (κ × α)) (k : κ) (f : α → α) (init : α)
    (h : ∀ e ∈ l, P e) (hf : ∀ e ∈ l, (e.1 == k) = true → P (e.1, f e.2)) (hi : P (k, init)) :
    ∀ e ∈ upsert l k f init, P e := by
  unfold upsert
  intro e he
  split at he
  · obtain ⟨e0, he0, rfl⟩ := List.mem_map.mp he
    split
    · next hk => exact hf e0 he0 hk
    · exact h e0 he0
  · rcases List.mem_append.mp he with h1 | h1
    · exact h e h1
    · rw [List.mem_singleton.mp h1]; exact hi

theorem sum_map_upsert (w : κ × α → Nat) (l : List (κ × α)) (k : κ) (f : α → α) (init : α) (δ : Nat)
    (hnd : (l.map (·.1)).Nodup) (hf : ∀ v, w (k, f v) = w (k, v) + δ) (hi : w (k, init) = δ) :
    ((upsert l k f init).map w).sum = (l.map w).sum + δ := by
  induction l with
  | nil => rw [upsert_nil, List.map_singleton, List.sum_singleton, hi]; exact (Nat.zero_add δ).symm
  | cons e es ih =>
    obtain ⟨a, v⟩ := e
    rw [List.map_cons, List.nodup_cons] at hnd
    by_cases ha : a = k
    · rw [ha, upsert_cons_self (ha ▸ hnd.1), List.map_cons, List.sum_cons, List.map_cons, List.sum_cons, hf]
      exact Nat.add_right_comm ..
    · rw [upsert_cons_ne ha, List.map_cons, List.sum_cons, ih hnd.2, List.map_cons, List.sum_cons]
      exact (Nat.add_assoc ..).symm

end Aldy
