import Aldy.Model.Major
import Aldy.Lemmas.Gadgets

/-!
`MajorInst.Feasible I σ` is a feasible point of `MajorInst.build` in the terms of the stage (sums of
selectors, flags, error rows), not of the rows `solve_major_model` emits (`sat_iff`).  A theorem about
feasible points opens one with `sat_iff.mp h` and reads fields; a point is shown feasible by filling them in.
-/

namespace Aldy

theorem major_novel_each_pos : 0 < Const.MAJOR_NOVEL_EACH := by
  unfold Const.MAJOR_NOVEL_EACH; norm_num

theorem exists_mem_map {α β : Type} (f : α → β) (l : List α) (p : β → Prop) :
    (∃ x ∈ l.map f, p x) ↔ ∃ y ∈ l, p (f y) := by
  simp only [List.mem_map, exists_exists_and_eq_and]

namespace MajorInst
variable {I : MajorInst} {σ : MVar → Rat}

theorem evalTerms_ones (σ : MVar → Rat) (vs : List MVar) : evalTerms σ (ones vs) = sumVars σ vs := by
  rw [ones, evalTerms_map_coeff, one_mul]

theorem eqCons_holds (σ : MVar → Rat) (t : List (Rat × MVar)) (r : Rat) :
    (∀ c ∈ eqCons t r, c.holds σ) ↔ evalTerms σ t = r := holds_le_ge σ t r

theorem copies_eq_range (I : MajorInst) (a : MajorA) :
    I.copies a = List.range (max 1 (I.cn.count a.cnConfig)) := zero_cons_range_filter _

theorem mem_copies {a : MajorA} {i : Nat} : i ∈ I.copies a ↔ i < max 1 (I.cn.count a.cnConfig) := by
  rw [copies_eq_range, List.mem_range]

theorem mem_slots {s : MajorA × Nat} : s ∈ I.slots ↔ s.1 ∈ I.alleles ∧ s.2 < max 1 (I.cn.count s.1.cnConfig) := by
  simp only [slots, List.mem_flatMap, List.mem_map, ← mem_copies]
  constructor
  · rintro ⟨a, ha, i, hi, rfl⟩; exact ⟨ha, hi⟩
  · rintro ⟨ha, hi⟩; exact ⟨s.1, ha, s.2, hi, rfl⟩

theorem forall_errRows {P : Mut → Prop} :
    (∀ m ∈ I.errRows, P m) ↔ (∀ m ∈ I.funcMuts, P m) ∧ ∀ pos ∈ I.positions, P (refMut pos) := by
  simp only [errRows, List.forall_mem_append, List.forall_mem_map]

theorem sum_errRows (f : Mut → Rat) :
    (I.errRows.map f).sum = (I.funcMuts.map f).sum + (I.positions.map fun pos => f (refMut pos)).sum := by
  simp only [errRows, List.map_append, List.sum_append, List.map_map, Function.comp_def]

theorem consCORD_holds : (∀ c ∈ I.consCORD, c.holds σ) ↔
    ∀ s ∈ I.slots, 0 < s.2 → σ (va s) ≤ σ (.A s.1.name (s.2 - 1)) := by
  simp only [consCORD, List.forall_mem_map, List.mem_filter, leVar_holds, decide_eq_true_eq, and_imp, gt_iff_lt]

theorem consCONE_holds : (∀ c ∈ I.consCONE, c.holds σ) ↔
    ∀ pos ∈ I.positions, sumVars σ ((I.funcMuts.filter fun m => m.pos == pos && !m.isIns).map MVar.N) ≤ 1 := by
  simp only [consCONE, List.forall_mem_map, LinCon.holds_le, evalTerms_ones]

theorem consCFUNC_holds : (∀ c ∈ I.consCFUNC, c.holds σ) ↔
    (∀ m ∈ I.funcMuts, σ (.E m) = I.observed m - (sumVars σ ((I.carriers m).map va) + σ (.N m))) ∧
    (∀ pos ∈ I.positions, σ (.E (refMut pos)) = I.observed (refMut pos) - sumVars σ ((I.refCarriers pos).map va)) := by
  simp only [consCFUNC, List.forall_mem_append, List.forall_mem_flatMap, eqCons_holds, evalTerms_append,
    evalTerms_ones, evalTerms_cons, evalTerms_nil, one_mul, add_zero, ← add_assoc, ← eq_sub_iff_add_eq']

theorem consCSAT_holds : (∀ c ∈ I.consCSAT, c.holds σ) ↔
    ∀ cc ∈ I.cn.solution, sumVars σ ((I.slots.filter fun s => s.1.cnConfig == cc.1).map va) = (cc.2 : Rat) := by
  simp only [consCSAT, List.forall_mem_flatMap, eqCons_holds, evalTerms_ones]

/-- the gadgets `COR`, `CXOR` are exact on 0/1 values only: hence the kinds as hypotheses (also in
`consNOVEL_holds`), which `sat_iff` has at hand -/
theorem consXOR_holds (bA : ∀ s ∈ I.slots, IsBin (σ (va s))) (bN : ∀ m ∈ I.funcMuts, IsBin (σ (.N m)))
    (bOR : ∀ m ∈ I.funcMuts, IsBin (σ (.OR m))) (bXOR : ∀ m ∈ I.funcMuts, IsBin (σ (.XOR m))) :
    (∀ c ∈ I.consXOR, c.holds σ) ↔
      (∀ m ∈ I.funcMuts, σ (.OR m) = 1 ↔ ∃ s ∈ I.carriers m, σ (va s) = 1) ∧
      ∀ m ∈ I.funcMuts, σ (.XOR m) = 1 ∧ σ (.N m) + σ (.OR m) = 1 := by
  simp only [consXOR, List.forall_mem_flatMap, List.forall_mem_append, ← forall₂_and]
  refine forall₂_congr fun m hm => and_congr ?_ (xor_gadget σ _ _ _ (bXOR m hm) (bN m hm) (bOR m hm))
  have bcar : ∀ v ∈ (I.carriers m).map va, IsBin (σ v) :=
    List.forall_mem_map.mpr fun s hs => bA s (List.mem_filter.mp hs).1
  rw [or_gadget σ _ _ (bOR m hm) bcar, exists_mem_map]

theorem consABS_holds : (∀ c ∈ I.consABS, c.holds σ) ↔ ∀ m ∈ I.errRows, |σ (.E m)| ≤ σ (.ABS m) := by
  simp only [consABS, List.forall_mem_flatMap, abs_gadget]

theorem consNOVEL_holds (bN : ∀ m ∈ I.funcMuts, IsBin (σ (.N m))) (bNOVEL : IsBin (σ .NOVEL)) :
    (∀ c ∈ I.consNOVEL, c.holds σ) ↔ (σ .NOVEL = 1 ↔ ∃ m ∈ I.funcMuts, σ (.N m) = 1) := by
  rw [← exists_mem_map MVar.N I.funcMuts (σ · = 1), ← or_gadget σ _ _ bNOVEL (List.forall_mem_map.mpr bN)]
  -- the rows `NOVEL >= N_m`, `NOVEL <= Σ N_m` are those of the OR gadget, in the other order
  simp only [consNOVEL, orCons, List.forall_mem_append, List.forall_mem_cons, List.forall_mem_map,
    List.not_mem_nil, false_imp_iff, implies_true, and_true, List.map_map, Function.comp_def]
  exact and_comm

structure Feasible (I : MajorInst) (σ : MVar → Rat) : Prop where
  binA : ∀ s ∈ I.slots, IsBin (σ (va s))
  binN : ∀ m ∈ I.funcMuts, IsBin (σ (.N m))
  binOR : ∀ m ∈ I.funcMuts, IsBin (σ (.OR m))
  binNOVEL : IsBin (σ .NOVEL)
  /-- copy `i` of an allele only after copy `i - 1` (`CORD_*`) -/
  ord : ∀ s ∈ I.slots, 0 < s.2 → σ (va s) ≤ σ (.A s.1.name (s.2 - 1))
  /-- one novel non-insertion variant per site (`CONE_*`) -/
  one : ∀ pos ∈ I.positions, sumVars σ ((I.funcMuts.filter fun m => m.pos == pos && !m.isIns).map MVar.N) ≤ 1
  /-- the error variables are what the calls leave of a variant row and of a reference row (`CFUNC_*`) -/
  errVar : ∀ m ∈ I.funcMuts, σ (.E m) = I.observed m - (sumVars σ ((I.carriers m).map va) + σ (.N m))
  errRef : ∀ pos ∈ I.positions, σ (.E (refMut pos)) = I.observed (refMut pos) - sumVars σ ((I.refCarriers pos).map va)
  /-- the structure is filled exactly (`CSAT_*`) -/
  fill : ∀ cc ∈ I.cn.solution, sumVars σ ((I.slots.filter fun s => s.1.cnConfig == cc.1).map va) = (cc.2 : Rat)
  /-- `OR m` says that a called copy carries `m`; `N m` is its negation (`COR`, `CXOR`).  That
  `XOR m` is 0/1 follows and is no field. -/
  carried : ∀ m ∈ I.funcMuts, σ (.OR m) = 1 ↔ ∃ s ∈ I.carriers m, σ (va s) = 1
  xor : ∀ m ∈ I.funcMuts, σ (.XOR m) = 1 ∧ σ (.N m) + σ (.OR m) = 1
  /-- the helpers dominate the absolute errors (`CABSL_*`, `CABSR_*` of `model.abssum`); their own
  bound `0 ≤` follows and is no field -/
  abs : ∀ m ∈ I.errRows, |σ (.E m)| ≤ σ (.ABS m)
  /-- the global flag says that some variant is novel (`NOVEL_UB_*`, `NOVEL_LB`) -/
  novel : σ .NOVEL = 1 ↔ ∃ m ∈ I.funcMuts, σ (.N m) = 1

theorem sat_iff : I.build.Sat σ ↔ Feasible I σ := by
  simp only [Ilp.Sat, build, List.forall_mem_append, List.forall_mem_map, List.forall_mem_flatMap,
    List.forall_mem_cons, List.not_mem_nil, false_imp_iff, implies_true, and_true, Kind.ok_bin, Kind.ok_free,
    Kind.ok_cont_lb, and_assoc, consCORD_holds, consCONE_holds, consCFUNC_holds, consCSAT_holds, consABS_holds]
  constructor
  · rintro ⟨binA, binN, binORX, -, binNOVEL, ord, one, errVar, errRef, fill, hXOR, abs, hNOVEL⟩
    have binOR := fun m hm => (binORX m hm).1
    obtain ⟨carried, xor⟩ := (consXOR_holds binA binN binOR fun m hm => (binORX m hm).2).mp hXOR
    exact ⟨binA, binN, binOR, binNOVEL, ord, one, errVar, errRef, fill, carried, xor, abs,
      (consNOVEL_holds binN binNOVEL).mp hNOVEL⟩
  · intro h
    have binXOR : ∀ m ∈ I.funcMuts, IsBin (σ (.XOR m)) := fun m hm => Or.inr (h.xor m hm).1
    exact ⟨h.binA, h.binN, fun m hm => ⟨h.binOR m hm, binXOR m hm⟩, fun m hm => (abs_nonneg _).trans (h.abs m hm),
      h.binNOVEL, h.ord, h.one, h.errVar, h.errRef, h.fill,
      (consXOR_holds h.binA h.binN h.binOR binXOR).mpr ⟨h.carried, h.xor⟩, h.abs,
      (consNOVEL_holds h.binN h.binNOVEL).mpr h.novel⟩

theorem objective_eq (I : MajorInst) (σ : MVar → Rat) :
    I.build.objective σ = (I.errRows.map fun m => σ (.ABS m)).sum + I.majorNovel * σ .NOVEL +
      Const.MAJOR_NOVEL_EACH * sumVars σ (I.funcMuts.map MVar.N) := by
  simp only [Ilp.objective, build, evalTerms_append, evalTerms_cons, evalTerms_nil, evalTerms_map_const, one_mul,
    add_zero, sumVars_map]

theorem Feasible.objective_ge (hf : Feasible I σ) (hn : 0 ≤ I.majorNovel) :
    0 ≤ (I.errRows.map fun m => |σ (.E m)|).sum ∧
    0 ≤ Const.MAJOR_NOVEL_EACH * sumVars σ (I.funcMuts.map MVar.N) ∧
    (I.errRows.map fun m => |σ (.E m)|).sum + Const.MAJOR_NOVEL_EACH * sumVars σ (I.funcMuts.map MVar.N) ≤
      I.build.objective σ := by
  refine ⟨sum_map_nonneg _ _ fun _ _ => abs_nonneg _,
    mul_nonneg major_novel_each_pos.le (sumVars_nonneg σ _ (List.forall_mem_map.mpr hf.binN)), ?_⟩
  rw [objective_eq]
  exact add_le_add (le_add_of_le_of_nonneg (sum_map_le _ _ _ hf.abs) (mul_nonneg hn hf.binNOVEL.nonneg)) le_rfl

theorem Feasible.flags_eq {τ : MVar → Rat} (fσ : Feasible I σ) (fτ : Feasible I τ)
    (hA : ∀ s ∈ I.slots, σ (va s) = τ (va s)) :
    (∀ m ∈ I.funcMuts, σ (.OR m) = τ (.OR m) ∧ σ (.N m) = τ (.N m) ∧ σ (.XOR m) = τ (.XOR m)) ∧
    σ .NOVEL = τ .NOVEL := by
  have hOR : ∀ m ∈ I.funcMuts, σ (.OR m) = τ (.OR m) := fun m hm =>
    ((fσ.binOR m hm).eq_iff (fτ.binOR m hm)).mpr (by
      rw [fσ.carried m hm, fτ.carried m hm]
      exact exists_congr fun s => and_congr_right fun hs => by rw [hA s (List.mem_filter.mp hs).1])
  have hN : ∀ m ∈ I.funcMuts, σ (.N m) = τ (.N m) := fun m hm => by
    rw [eq_sub_of_add_eq (fσ.xor m hm).2, eq_sub_of_add_eq (fτ.xor m hm).2, hOR m hm]
  refine ⟨fun m hm => ⟨hOR m hm, hN m hm, by rw [(fσ.xor m hm).1, (fτ.xor m hm).1]⟩, ?_⟩
  refine (fσ.binNOVEL.eq_iff fτ.binNOVEL).mpr ?_
  rw [fσ.novel, fτ.novel]
  exact exists_congr fun m => and_congr_right fun hm => by rw [hN m hm]

end MajorInst
end Aldy
