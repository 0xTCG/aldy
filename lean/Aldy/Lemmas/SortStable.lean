import Aldy.Model.Diplotype
import Mathlib.Data.List.Perm.Basic

/-!
The model's insertion sort `sortStable lt` (`Model/Diplotype.lean`, Python's `sorted` with a key;
the per-type insertion steps of other model files are instances of `insertStable`) sorts with
respect to every total preorder that `lt` refines.
-/

namespace Aldy

theorem insertStable_perm {α : Type} (lt : α → α → Bool) (x : α) (l : List α) :
    (insertStable lt x l).Perm (x :: l) := by
  induction l with
  | nil => exact .refl _
  | cons y ys ih =>
    unfold insertStable
    split
    · exact .refl _
    · exact (ih.cons y).trans (.swap x y ys)

theorem foldl_insertStable_perm {α : Type} (lt : α → α → Bool) (l acc : List α) :
    (l.foldl (fun acc x => insertStable lt x acc) acc).Perm (l ++ acc) := by
  induction l generalizing acc with
  | nil => exact .refl _
  | cons x xs ih => exact (ih _).trans ((insertStable_perm lt x acc).append_left xs |>.trans List.perm_middle)

/-- `sortPairs` (`Model/Minor.lean`) inserts from the right -/
theorem foldr_insertStable_perm {α : Type} (lt : α → α → Bool) (l : List α) :
    (l.foldr (insertStable lt) []).Perm l := by
  induction l with
  | nil => exact .refl _
  | cons x xs ih => exact (insertStable_perm lt x _).trans (ih.cons x)

theorem sortStable_perm {α : Type} (lt : α → α → Bool) (l : List α) : (sortStable lt l).Perm l := by
  have h := foldl_insertStable_perm lt l []
  rwa [List.append_nil] at h

theorem mem_sortStable {α : Type} (lt : α → α → Bool) {x : α} {l : List α} : x ∈ sortStable lt l ↔ x ∈ l :=
  (sortStable_perm lt l).mem_iff

theorem sortStable_two {α : Type} (lt : α → α → Bool) (x y : α) :
    sortStable lt [x, y] = if lt y x then [y, x] else [x, y] := rfl

/-- all that the sort needs of `lt` to sort by `R` (total by `of_not_lt`).  `R a b` need not give `lt a b`: for a
strict order `lt`, `R a b := ¬ lt b a`; for a comparison of keys such as `candLt`, `R` may compare the first
component only. -/
structure Refines {α : Type} (lt : α → α → Bool) (R : α → α → Prop) : Prop where
  trans : ∀ {a b c}, R a b → R b c → R a c
  of_lt : ∀ {a b}, lt a b = true → R a b
  of_not_lt : ∀ {a b}, lt a b = false → R b a

variable {α : Type} {lt : α → α → Bool} {R : α → α → Prop}

theorem insertStable_pairwise (hR : Refines lt R) (x : α) {l : List α} (hs : l.Pairwise R) :
    (insertStable lt x l).Pairwise R := by
  induction l with
  | nil => exact List.pairwise_singleton R x
  | cons y ys ih =>
    obtain ⟨hy, hys⟩ := List.pairwise_cons.mp hs
    unfold insertStable
    split
    next h =>
      exact List.pairwise_cons.mpr
        ⟨List.forall_mem_cons.mpr ⟨hR.of_lt h, fun z hz => hR.trans (hR.of_lt h) (hy z hz)⟩, hs⟩
    next h =>
      refine List.pairwise_cons.mpr ⟨fun z hz => ?_, ih hys⟩
      rcases List.mem_cons.mp ((insertStable_perm lt x ys).mem_iff.mp hz) with rfl | hz
      · exact hR.of_not_lt (Bool.eq_false_iff.mpr h)
      · exact hy z hz

theorem sortStable_pairwise (hR : Refines lt R) (l : List α) : (sortStable lt l).Pairwise R := by
  unfold sortStable
  exact List.foldlRecOn (motive := List.Pairwise R) l _ .nil fun acc h x _ => insertStable_pairwise hR x h

theorem sortStable_eq_of_perm (hR : Refines lt R) (hanti : ∀ {a b}, R a b → R b a → a = b) {l₁ l₂ : List α}
    (h : l₁.Perm l₂) : sortStable lt l₁ = sortStable lt l₂ :=
  List.Perm.eq_of_pairwise (fun _ _ _ _ => hanti) (sortStable_pairwise hR l₁) (sortStable_pairwise hR l₂)
    ((sortStable_perm lt l₁).trans (h.trans (sortStable_perm lt l₂).symm))

end Aldy
