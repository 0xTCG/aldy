import Aldy.Model.CN
import Aldy.Lemmas.Gadgets

/-!
`CNInst.Feasible I σ` is a feasible point of `CNInst.build` in the terms of the stage (selectors,
residuals), not of the rows `solve_cn_model` emits (`sat_iff`).  A theorem about feasible points opens one
with `sat_iff.mp h` and reads fields; the completed point of `Props/C03Spec` is shown feasible by filling
them in.
-/

namespace Aldy
namespace CNInst
variable {I : CNInst} {σ : CVar → Rat}

theorem eqCons_holds (σ : CVar → Rat) (t : List (Rat × CVar)) (r : Rat) :
    (∀ c ∈ eqCons t r, c.holds σ) ↔ evalTerms σ t = r := holds_le_ge σ t r

theorem nU_nonneg (I : CNInst) : 0 ≤ I.nU := Nat.cast_nonneg _

theorem rowWeight_nonneg (I : CNInst) (hd : 0 ≤ I.prof.cnDiff) (hpce : 0 ≤ I.prof.cnPcePenalty) (r : String) :
    0 ≤ I.rowWeight r := by
  unfold rowWeight
  refine mul_nonneg (div_nonneg hd I.nU_nonneg) ?_
  split_ifs
  · exact hpce
  · exact zero_le_one

theorem penalty_nonneg (I : CNInst) (hl : 0 ≤ I.prof.cnFusionLeft) (hr : 0 ≤ I.prof.cnFusionRight)
    (name : String) : 0 ≤ I.penalty name := by
  have hbase : 0 ≤ I.parsimonyBase :=
    div_nonneg (by unfold Const.CN_PARSIMONY_BASE; norm_num) I.nU_nonneg
  unfold penalty
  refine add_nonneg hbase ?_
  split
  · refine add_nonneg ?_ ?_
    · split_ifs
      · exact mul_nonneg hbase hr
      · exact le_rfl
    · split_ifs
      · exact mul_nonneg hbase hl
      · exact le_rfl
  · exact le_rfl

theorem consDIPLO_holds :
    (∀ c ∈ I.consDIPLO, c.holds σ) ↔ sumVars σ ((I.slots.filter fun s => s.idx ≤ 0).map sv) = 2 := by
  rw [consDIPLO, eqCons_holds, evalTerms_map_const, one_mul]

theorem consDEL_holds : (∀ c ∈ I.consDEL, c.holds σ) ↔
    ∀ d, I.delAllele = some d → ∀ s ∈ I.slots, s.name ≠ d → σ (sv s) + σ (.S d (-1)) ≤ 1 := by
  unfold consDEL
  cases I.delAllele with
  | none => exact ⟨fun _ _ h => (nomatch h), fun _ _ h => absurd h List.not_mem_nil⟩
  | some d =>
    simp only [List.forall_mem_map, List.forall_mem_filter, LinCon.holds_le, evalTerms_cons, evalTerms_nil,
      one_mul, add_zero, bne_iff_ne, Option.some.injEq, forall_eq']

theorem consORD_holds : (∀ c ∈ I.consORD, c.holds σ) ↔ ∀ s ∈ I.slots,
    (s.idx = -1 → σ (sv s) ≤ σ (.S s.name 0)) ∧ (s.idx > 1 → σ (sv s) ≤ σ (.S s.name (s.idx - 1))) := by
  simp only [consORD, List.forall_mem_filterMap]
  refine forall₂_congr fun s _ => ?_
  by_cases h1 : s.idx = -1
  · simp [h1, leVar_holds]
  · by_cases h2 : s.idx > 1 <;> simp [h1, h2, leVar_holds]

theorem consCOV_holds : (∀ c ∈ I.consCOV, c.holds σ) ↔
    (∀ rc ∈ I.rows, σ (.EG rc.1) = I.fitErr σ rc) ∧ ∀ rc ∈ I.rows, σ (.E rc.1) = I.diffErr σ rc := by
  simp only [consCOV, List.forall_mem_flatMap, List.forall_mem_append, eqCons_holds, evalTerms_append,
    evalTerms_cons, evalTerms_nil, one_mul, add_zero, fitErr, diffErr, eq_sub_iff_add_eq', forall₂_and]

theorem consABS_holds : (∀ c ∈ I.consABS, c.holds σ) ↔
    (∀ rc ∈ I.rows, |σ (.E rc.1)| ≤ σ (.ABSE rc.1)) ∧ ∀ rc ∈ I.rows, |σ (.EG rc.1)| ≤ σ (.ABSEG rc.1) := by
  simp only [consABS, List.forall_mem_append, List.forall_mem_flatMap, abs_gadget]

structure Feasible (I : CNInst) (σ : CVar → Rat) : Prop where
  binS : ∀ s ∈ I.slots, IsBin (σ (sv s))
  /-- the bounds `±cn_max` of the error variables -/
  fitBound : ∀ rc ∈ I.rows, |σ (.EG rc.1)| ≤ I.prof.cnMax
  diffBound : ∀ rc ∈ I.rows, |σ (.E rc.1)| ≤ I.prof.cnMax
  /-- two complete haplotypes (`CDIPLO`) -/
  diplo : sumVars σ ((I.slots.filter fun s => s.idx ≤ 0).map sv) = 2
  /-- the second deletion slot excludes every slot of another name (`CDEL_*`) -/
  del : ∀ d, I.delAllele = some d → ∀ s ∈ I.slots, s.name ≠ d → σ (sv s) + σ (.S d (-1)) ≤ 1
  /-- the second haplotype slot only with the first, extra copy `i` only after copy `i - 1` (`CORD_*`) -/
  ord : ∀ s ∈ I.slots,
    (s.idx = -1 → σ (sv s) ≤ σ (.S s.name 0)) ∧ (s.idx > 1 → σ (sv s) ≤ σ (.S s.name (s.idx - 1)))
  /-- the error variables are the residuals of the selection (`CG_COV_*`, `C_COV_*`) -/
  errFit : ∀ rc ∈ I.rows, σ (.EG rc.1) = I.fitErr σ rc
  errDiff : ∀ rc ∈ I.rows, σ (.E rc.1) = I.diffErr σ rc
  /-- the helpers dominate the absolute errors (`CABSL_*`, `CABSR_*` of `model.abssum`); their own
  bound `0 ≤` follows and is no field -/
  absDiff : ∀ rc ∈ I.rows, |σ (.E rc.1)| ≤ σ (.ABSE rc.1)
  absFit : ∀ rc ∈ I.rows, |σ (.EG rc.1)| ≤ σ (.ABSEG rc.1)

theorem sat_iff : I.build.Sat σ ↔ Feasible I σ := by
  simp only [Ilp.Sat, build, List.forall_mem_append, List.forall_mem_map, List.forall_mem_flatMap,
    List.forall_mem_cons, List.not_mem_nil, false_imp_iff, implies_true, and_true, Kind.ok_bin, Kind.ok_cont_sym,
    Kind.ok_cont_lb, and_assoc, consDIPLO_holds, consDEL_holds, consORD_holds, consCOV_holds, consABS_holds]
  constructor
  · rintro ⟨binS, bound, -, -, diplo, del, ord, errFit, errDiff, absDiff, absFit⟩
    exact ⟨binS, fun rc hr => (bound rc hr).1, fun rc hr => (bound rc hr).2, diplo, del, ord, errFit, errDiff,
      absDiff, absFit⟩
  · intro h
    exact ⟨h.binS, fun rc hr => ⟨h.fitBound rc hr, h.diffBound rc hr⟩,
      fun rc hr => (abs_nonneg _).trans (h.absDiff rc hr), fun rc hr => (abs_nonneg _).trans (h.absFit rc hr),
      h.diplo, h.del, h.ord, h.errFit, h.errDiff, h.absDiff, h.absFit⟩

theorem objective_eq (I : CNInst) (σ : CVar → Rat) :
    I.build.objective σ =
      (I.rows.map fun rc => I.rowWeight rc.1 * σ (.ABSE rc.1)).sum +
      (I.rows.map fun rc => I.prof.cnFit / I.nU * σ (.ABSEG rc.1)).sum +
      (I.slots.map fun s => I.prof.cnParsimony * I.penalty s.name * σ (sv s)).sum := by
  simp only [Ilp.objective, build, evalTerms_append, evalTerms_map, rowWeight]

end CNInst
end Aldy
