import Aldy.Model.Ilp
import Aldy.Lemmas.Sums

/-!
Semantics of `Model/Ilp.lean`, generic in the type of variables: what the kinds of variables, single rows
and the helper builders say on 0/1 values, and the bridge from a model to a specification of its decisions.
-/

namespace Aldy
variable {V : Type}

def IsBin (x : Rat) : Prop := x = 0 ∨ x = 1

theorem IsBin.nonneg {x : Rat} (h : IsBin x) : 0 ≤ x := by rcases h with h | h <;> simp [h]
theorem IsBin.le_one {x : Rat} (h : IsBin x) : x ≤ 1 := by rcases h with h | h <;> simp [h]
theorem IsBin.eq_zero_of_ne_one {x : Rat} (h : IsBin x) (h1 : x ≠ 1) : x = 0 := h.resolve_right h1

theorem isBin_zero : IsBin 0 := Or.inl rfl
theorem isBin_one : IsBin 1 := Or.inr rfl

theorem IsBin.ite {p : Prop} [Decidable p] {x y : Rat} (hx : IsBin x) (hy : IsBin y) : IsBin (if p then x else y) := by
  split_ifs <;> assumption

theorem isBin_ite (p : Prop) [Decidable p] : IsBin (if p then 1 else 0) := .ite isBin_one isBin_zero

theorem IsBin.eq_iff {x y : Rat} (hx : IsBin x) (hy : IsBin y) : x = y ↔ (x = 1 ↔ y = 1) := by
  rcases hx with rfl | rfl <;> rcases hy with rfl | rfl <;> norm_num

theorem IsBin.eq_ite {x : Rat} (hx : IsBin x) {p : Prop} [Decidable p] (h : x = 1 ↔ p) :
    x = if p then 1 else 0 := by
  split_ifs with hp
  · exact h.mpr hp
  · exact hx.eq_zero_of_ne_one fun e => hp (h.mp e)

theorem eq_ite_one_zero_iff {x : Rat} {p : Prop} [Decidable p] :
    x = (if p then 1 else 0) ↔ IsBin x ∧ (x = 1 ↔ p) := by
  refine ⟨?_, fun h => h.1.eq_ite h.2⟩
  rintro rfl
  by_cases hp : p
  · rw [if_pos hp]; exact ⟨isBin_one, iff_of_true rfl hp⟩
  · rw [if_neg hp]; exact ⟨isBin_zero, iff_of_false zero_ne_one hp⟩

theorem eq_ite_zero_one_iff {x : Rat} {p : Prop} [Decidable p] :
    x = (if p then 0 else 1) ↔ IsBin x ∧ (x = 1 ↔ ¬p) := by
  rw [← ite_not, eq_ite_one_zero_iff]

theorem IsBin.mul {a b : Rat} (ha : IsBin a) (hb : IsBin b) : IsBin (a * b) := by
  rcases ha with rfl | rfl
  · exact Or.inl (zero_mul b)
  · rwa [one_mul]

theorem IsBin.mul_self {a : Rat} (ha : IsBin a) : a * a = a := by
  rcases ha with rfl | rfl <;> norm_num

theorem IsBin.mul_eq_one {a b : Rat} (ha : IsBin a) (hb : IsBin b) : a * b = 1 ↔ a = 1 ∧ b = 1 := by
  rcases ha with rfl | rfl <;> rcases hb with rfl | rfl <;> norm_num

theorem IsBin.mul_eq_ite {a b : Rat} (ha : IsBin a) (hb : IsBin b) :
    a * b = if a = 1 ∧ b = 1 then 1 else 0 :=
  (ha.mul hb).eq_ite (ha.mul_eq_one hb)

theorem IsBin.sub_mul_eq_ite {a b : Rat} (ha : IsBin a) (hb : IsBin b) :
    a - a * b = if a = 1 ∧ b = 0 then 1 else 0 := by
  rcases ha with rfl | rfl <;> rcases hb with rfl | rfl <;> norm_num

@[simp] theorem evalTerms_nil (σ : V → Rat) : evalTerms σ [] = 0 := rfl
@[simp] theorem evalTerms_cons (σ : V → Rat) (t : Rat × V) (ts : List (Rat × V)) :
    evalTerms σ (t :: ts) = t.1 * σ t.2 + evalTerms σ ts := by
  simp [evalTerms]
theorem evalTerms_append (σ : V → Rat) (a b : List (Rat × V)) :
    evalTerms σ (a ++ b) = evalTerms σ a + evalTerms σ b := by
  simp [evalTerms]

theorem evalTerms_congr (σ τ : V → Rat) (ts : List (Rat × V)) (h : ∀ t ∈ ts, σ t.2 = τ t.2) :
    evalTerms σ ts = evalTerms τ ts :=
  sum_map_congr ts _ _ fun t ht => by rw [h t ht]

theorem evalTerms_zero_of (σ : V → Rat) (ts : List (Rat × V)) (h : ∀ t ∈ ts, σ t.2 = 0) :
    evalTerms σ ts = 0 :=
  sum_map_zero ts _ fun t ht => by rw [h t ht, mul_zero]

theorem evalTerms_map_sum {α : Type} (σ : V → Rat) (l : List α) (f : α → Rat × V) :
    evalTerms σ (l.map f) = (l.map fun x => (f x).1 * σ (f x).2).sum := by
  simp only [evalTerms, List.map_map, Function.comp_def]

theorem evalTerms_map {α : Type} (σ : V → Rat) (l : List α) (f : α → Rat) (g : α → V) :
    evalTerms σ (l.map fun x => (f x, g x)) = (l.map fun x => f x * σ (g x)).sum :=
  evalTerms_map_sum σ l fun x => (f x, g x)

theorem evalTerms_map_var {W : Type} (σ : W → Rat) (ts : List (Rat × V)) (f : V → W) :
    evalTerms σ (ts.map fun t => (t.1, f t.2)) = evalTerms (σ ∘ f) ts :=
  evalTerms_map_sum σ ts fun t => (t.1, f t.2)

theorem evalTerms_perm (σ : V → Rat) (a b : List (Rat × V)) (h : a.Perm b) : evalTerms σ a = evalTerms σ b :=
  perm_sum_map h _

theorem evalTerms_flatMap_sum {α : Type} (σ : V → Rat) (l : List α) (f : α → List (Rat × V)) :
    evalTerms σ (l.flatMap f) = (l.map fun x => evalTerms σ (f x)).sum := by
  induction l with
  | nil => simp
  | cons x xs ih => rw [List.flatMap_cons, evalTerms_append, ih]; simp

theorem evalTerms_filterMap_sum {α : Type} (σ : V → Rat) (l : List α) (f : α → Option (Rat × V)) :
    evalTerms σ (l.filterMap f) = (l.map fun x => (f x).elim 0 fun t => t.1 * σ t.2).sum := by
  induction l with
  | nil => simp
  | cons x xs ih =>
    rw [List.filterMap_cons]
    cases h : f x with
    | none => simp [h, ih]
    | some t => simp [h, ih]

theorem evalTerms_filter_map_sum {α : Type} (σ : V → Rat) (l : List α) (p : α → Bool) (f : α → Rat × V) :
    evalTerms σ ((l.filter p).map f) = (l.map fun x => if p x then (f x).1 * σ (f x).2 else 0).sum := by
  induction l with
  | nil => simp
  | cons x xs ih =>
    rw [List.filter_cons]
    by_cases h : p x <;> simp [h, ih]

def sumVars (σ : V → Rat) (xs : List V) : Rat := (xs.map σ).sum

@[simp] theorem sumVars_nil (σ : V → Rat) : sumVars σ [] = 0 := rfl
@[simp] theorem sumVars_cons (σ : V → Rat) (x : V) (xs : List V) :
    sumVars σ (x :: xs) = σ x + sumVars σ xs := by simp [sumVars]
theorem sumVars_append (σ : V → Rat) (a b : List V) :
    sumVars σ (a ++ b) = sumVars σ a + sumVars σ b := by simp [sumVars]

theorem sumVars_congr (σ τ : V → Rat) (vs : List V) (h : ∀ v ∈ vs, σ v = τ v) :
    sumVars σ vs = sumVars τ vs := sum_map_congr vs σ τ h

theorem sumVars_map {α : Type} (σ : V → Rat) (f : α → V) (l : List α) :
    sumVars σ (l.map f) = (l.map fun x => σ (f x)).sum := by
  rw [sumVars, List.map_map]; rfl

theorem evalTerms_map_const {α : Type} (σ : V → Rat) (l : List α) (c : Rat) (g : α → V) :
    evalTerms σ (l.map fun x => (c, g x)) = c * sumVars σ (l.map g) := by
  rw [evalTerms_map σ l (fun _ => c) g, sum_map_mul_left, sumVars_map]

theorem evalTerms_map_const_of_eq {α : Type} (σ : V → Rat) (l : List α) (c : Rat) (f : α → V) (x : Rat)
    (h : ∀ a ∈ l, σ (f a) = x) : evalTerms σ (l.map fun a => (c, f a)) = c * ((l.length : Rat) * x) := by
  induction l with
  | nil => simp
  | cons a l ih =>
    rw [List.forall_mem_cons] at h
    rw [List.map_cons, evalTerms_cons, ih h.2, h.1, List.length_cons]
    push_cast; ring

theorem evalTerms_map_coeff (σ : V → Rat) (xs : List V) (c : Rat) :
    evalTerms σ (xs.map fun x => (c, x)) = c * sumVars σ xs := by
  have := evalTerms_map_const σ xs c id
  rwa [List.map_id] at this

theorem sumVars_eq_count (σ : V → Rat) (xs : List V) (h : ∀ x ∈ xs, IsBin (σ x)) :
    sumVars σ xs = ((xs.filter fun x => decide (σ x = 1)).length : Rat) := by
  induction xs with
  | nil => rfl
  | cons x xs ih =>
    rw [List.forall_mem_cons] at h
    rw [sumVars_cons, ih h.2, List.filter_cons]
    rcases h.1 with h0 | h1
    · simp [h0]
    · simp [h1, add_comm]

theorem sumVars_nonneg (σ : V → Rat) (xs : List V) (h : ∀ x ∈ xs, IsBin (σ x)) :
    0 ≤ sumVars σ xs := by
  rw [sumVars_eq_count σ xs h]; exact Nat.cast_nonneg _

theorem sumVars_le_length (σ : V → Rat) (xs : List V) (h : ∀ x ∈ xs, IsBin (σ x)) :
    sumVars σ xs ≤ xs.length := by
  rw [sumVars_eq_count σ xs h]; exact Nat.cast_le.mpr (List.length_filter_le _ xs)

theorem sumVars_eq_length (σ : V → Rat) (xs : List V) (h : ∀ x ∈ xs, σ x = 1) :
    sumVars σ xs = xs.length := by
  rw [sumVars_eq_count σ xs fun x hx => Or.inr (h x hx),
    List.filter_eq_self.mpr fun x hx => decide_eq_true (h x hx)]

/-- `n` binaries sum to at most `n - 1` unless all of them are 1 -/
theorem sumVars_le_pred_iff (σ : V → Rat) (xs : List V) (h : ∀ x ∈ xs, IsBin (σ x)) :
    sumVars σ xs ≤ (xs.length : Rat) - 1 ↔ ¬ ∀ x ∈ xs, σ x = 1 := by
  rw [sumVars_eq_count σ xs h, le_sub_iff_add_le, ← Nat.cast_add_one, Nat.cast_le, Nat.add_one_le_iff,
    List.length_filter_lt_length_iff_exists]
  simp only [decide_eq_true_eq, not_forall, exists_prop]

theorem one_le_sumVars_iff (σ : V → Rat) (xs : List V) (h : ∀ x ∈ xs, IsBin (σ x)) :
    1 ≤ sumVars σ xs ↔ ∃ x ∈ xs, σ x = 1 := by
  rw [sumVars_eq_count σ xs h, Nat.one_le_cast, Nat.add_one_le_iff, List.length_filter_pos_iff]
  simp only [decide_eq_true_eq]

theorem sumVars_zero_of_all_zero (σ : V → Rat) (xs : List V) (h : ∀ x ∈ xs, σ x = 0) :
    sumVars σ xs = 0 := sum_map_zero xs σ h

theorem Kind.ok_bin (x : Rat) : Kind.bin.ok x ↔ IsBin x := Iff.rfl

theorem Kind.ok_cont_sym (b x : Rat) : (Kind.cont (some (-b)) (some b)).ok x ↔ |x| ≤ b := by
  simp only [Kind.ok, Option.some.injEq, forall_eq', abs_le]

theorem Kind.ok_cont_lb (l x : Rat) : (Kind.cont (some l) none).ok x ↔ l ≤ x := by
  simp only [Kind.ok, Option.some.injEq, forall_eq', reduceCtorEq, false_imp_iff, forall_const, and_true]

theorem Kind.ok_free (x : Rat) : (Kind.cont none none).ok x ↔ True := by
  simp only [Kind.ok, reduceCtorEq, false_imp_iff, implies_true, and_self]

theorem LinCon.holds_le (σ : V → Rat) (t : List (Rat × V)) (r : Rat) :
    (⟨t, .le, r⟩ : LinCon V).holds σ ↔ evalTerms σ t ≤ r := Iff.rfl
theorem LinCon.holds_ge (σ : V → Rat) (t : List (Rat × V)) (r : Rat) :
    (⟨t, .ge, r⟩ : LinCon V).holds σ ↔ r ≤ evalTerms σ t := Iff.rfl

/-- `expr == rhs` as every stage writes it: the pair `expr ≤ rhs`, `expr ≥ rhs` -/
theorem holds_le_ge (σ : V → Rat) (t : List (Rat × V)) (r : Rat) :
    (∀ c ∈ [(⟨t, .le, r⟩ : LinCon V), ⟨t, .ge, r⟩], c.holds σ) ↔ evalTerms σ t = r := by
  simp only [List.forall_mem_cons, List.not_mem_nil, false_imp_iff, implies_true, and_true,
    LinCon.holds_le, LinCon.holds_ge, le_antisymm_iff]

theorem holds_congr (σ τ : V → Rat) (c : LinCon V) (h : ∀ t ∈ c.terms, σ t.2 = τ t.2) :
    c.holds σ ↔ c.holds τ := by
  unfold LinCon.holds
  rw [evalTerms_congr σ τ c.terms h]

theorem leVar_holds (σ : V → Rat) (a b : V) : (leVar a b).holds σ ↔ σ a ≤ σ b := by
  simp [leVar, LinCon.holds]

/-- the rows of `model.prod`, for any values -/
theorem prodCons_holds (σ : V → Rat) (r : V) (ts : List V) :
    (∀ c ∈ prodCons r ts, c.holds σ) ↔
      (∀ t ∈ ts, σ r ≤ σ t) ∧ sumVars σ ts - ((ts.length : Rat) - 1) ≤ σ r := by
  simp only [prodCons, List.forall_mem_append, List.forall_mem_map, leVar_holds, List.forall_mem_singleton,
    LinCon.holds_ge, evalTerms_cons, evalTerms_map_coeff]
  refine and_congr_right fun _ => ?_
  constructor <;> intro h <;> linarith

theorem prod_gadget (σ : V → Rat) (res : V) (ts : List V)
    (hres : IsBin (σ res)) (hts : ∀ t ∈ ts, IsBin (σ t)) :
    (∀ c ∈ prodCons res ts, c.holds σ) ↔
      ((σ res = 1) ↔ (∀ t ∈ ts, σ t = 1)) := by
  rw [prodCons_holds]
  rcases hres with h0 | h1
  · -- `res = 0`: the first rows say nothing, the last one is the cut `Σ ts ≤ n - 1`
    rw [h0, sub_nonpos, sumVars_le_pred_iff σ ts hts, iff_false_left zero_ne_one]
    exact and_iff_right fun t ht => (hts t ht).nonneg
  · -- `res = 1`: the first rows put every factor at 1, the last one says `Σ ts ≤ n`
    rw [h1, iff_true_left rfl]
    refine ⟨fun h t ht => le_antisymm (hts t ht).le_one (h.1 t ht), fun h => ⟨fun t ht => (h t ht).ge, ?_⟩⟩
    have := sumVars_le_length σ ts hts
    linarith

theorem prod2_gadget (σ : V → Rat) (r a b : V) (hr : IsBin (σ r)) (ha : IsBin (σ a)) (hb : IsBin (σ b)) :
    (∀ c ∈ prodCons r [a, b], c.holds σ) ↔ σ r = σ a * σ b := by
  rw [prod_gadget σ r [a, b] hr (List.forall_mem_cons.mpr ⟨ha, List.forall_mem_singleton.mpr hb⟩),
    hr.eq_iff (ha.mul hb), ha.mul_eq_one hb, List.forall_mem_cons, List.forall_mem_singleton]

theorem abs_gadget (σ : V → Rat) (a v : V) :
    (∀ c ∈ absCons a v, c.holds σ) ↔ |σ v| ≤ σ a := by
  simp only [absCons, List.mem_cons, List.mem_nil_iff, or_false, forall_eq_or_imp, forall_eq,
    LinCon.holds, evalTerms_cons, evalTerms_nil]
  rw [abs_le]
  constructor
  · rintro ⟨h1, h2⟩; constructor <;> linarith
  · rintro ⟨h1, h2⟩; constructor <;> linarith

/-- why the helpers of `model.abssum` are the absolute values at an optimum -/
theorem abssum_opt (ts : List (Rat × Rat × Rat))   -- (weight, value, helper)
    (hw : ∀ t ∈ ts, 0 < t.1) (hf : ∀ t ∈ ts, |t.2.1| ≤ t.2.2) :
    (ts.map fun t => t.1 * |t.2.1|).sum ≤ (ts.map fun t => t.1 * t.2.2).sum ∧
    ((ts.map fun t => t.1 * t.2.2).sum ≤ (ts.map fun t => t.1 * |t.2.1|).sum →
      ∀ t ∈ ts, t.2.2 = |t.2.1|) := by
  have hle : ∀ t ∈ ts, t.1 * |t.2.1| ≤ t.1 * t.2.2 := fun t ht =>
    mul_le_mul_of_nonneg_left (hf t ht) (hw t ht).le
  exact ⟨sum_map_le ts _ _ hle, fun hsum t ht =>
    (mul_left_cancel₀ (hw t ht).ne' (eq_of_le_of_sum_le ts _ _ hle hsum t ht)).symm⟩

/-- the rows of the OR gadget, for any values -/
theorem orCons_holds (σ : V → Rat) (z : V) (xs : List V) :
    (∀ c ∈ orCons z xs, c.holds σ) ↔ σ z ≤ sumVars σ xs ∧ ∀ x ∈ xs, σ x ≤ σ z := by
  simp only [orCons, List.forall_mem_cons, List.forall_mem_map, LinCon.holds_le, LinCon.holds_ge, evalTerms_cons,
    evalTerms_nil, evalTerms_map_coeff]
  refine and_congr ?_ (forall₂_congr fun x _ => ?_) <;> constructor <;> intro h <;> linarith

theorem or_gadget (σ : V → Rat) (z : V) (xs : List V)
    (hz : IsBin (σ z)) (hxs : ∀ x ∈ xs, IsBin (σ x)) :
    (∀ c ∈ orCons z xs, c.holds σ) ↔ ((σ z = 1) ↔ (∃ x ∈ xs, σ x = 1)) := by
  rw [orCons_holds]
  rcases hz with h0 | h1
  · -- `z = 0`: no `x` is above 0
    rw [h0, iff_false_left zero_ne_one]
    refine ⟨fun h ⟨x, hx, h1⟩ => ?_, fun h => ⟨sumVars_nonneg σ xs hxs, fun x hx => ?_⟩⟩
    · have := h.2 x hx
      rw [h1] at this
      exact absurd this (by norm_num)
    · exact ((hxs x hx).eq_zero_of_ne_one fun h1 => h ⟨x, hx, h1⟩).le
  · -- `z = 1`: the sum is at least 1
    rw [h1, iff_true_left rfl, one_le_sumVars_iff σ xs hxs]
    exact and_iff_left fun x hx => (hxs x hx).le_one

theorem xor_gadget (σ : V → Rat) (x n o : V)
    (hx : IsBin (σ x)) (hn : IsBin (σ n)) (ho : IsBin (σ o)) :
    (∀ c ∈ xorCons x n o, c.holds σ) ↔ (σ x = 1 ∧ σ n + σ o = 1) := by
  simp only [xorCons, List.mem_cons, List.mem_nil_iff, or_false, forall_eq_or_imp, forall_eq,
    LinCon.holds, evalTerms_cons, evalTerms_nil]
  constructor
  · rintro ⟨h1, h2, _, _, h5⟩
    have hx1 : σ x = 1 := by
      rcases hx with h | h
      · rw [h] at h5; norm_num at h5
      · exact h
    rw [hx1] at h1 h2
    exact ⟨hx1, by linarith⟩
  · -- with `x = 1` and `n + o = 1` the third and fourth constraint read `2·o ≥ 0`, `2·n ≥ 0`
    rintro ⟨hx1, hs⟩
    have := hn.nonneg
    have := ho.nonneg
    rw [hx1]
    refine ⟨?_, ?_, ?_, ?_, ?_⟩ <;> linarith

theorem cut_iff (σ : V → Rat) (vv : List V) (h : ∀ v ∈ vv, IsBin (σ v)) :
    (cutCon vv).holds σ ↔ ¬ (∀ v ∈ vv, σ v = 1) := by
  rw [← sumVars_le_pred_iff σ vv h]
  simp only [cutCon, LinCon.holds, evalTerms_map_coeff, one_mul]

theorem forall_terms_leVar {P : V → Prop} {a b : V} : (∀ t ∈ (leVar a b).terms, P t.2) ↔ P a ∧ P b := by
  simp only [leVar, List.forall_mem_cons, List.not_mem_nil, false_imp_iff, implies_true, and_true]

theorem forall_terms_prodCons {P : V → Prop} {r : V} {ts : List V} :
    (∀ c ∈ prodCons r ts, ∀ t ∈ c.terms, P t.2) ↔ P r ∧ ∀ x ∈ ts, P x := by
  simp only [prodCons, List.forall_mem_append, List.forall_mem_map, forall_terms_leVar, List.forall_mem_cons,
    List.not_mem_nil, false_imp_iff, implies_true, and_true]
  exact ⟨fun h => h.2, fun h => ⟨fun x hx => ⟨h.1, h.2 x hx⟩, h⟩⟩

theorem forall_terms_orCons {P : V → Prop} {z : V} {xs : List V} :
    (∀ c ∈ orCons z xs, ∀ t ∈ c.terms, P t.2) ↔ P z ∧ ∀ x ∈ xs, P x := by
  simp only [orCons, List.forall_mem_cons, List.forall_mem_map, List.not_mem_nil, false_imp_iff, implies_true, and_true]
  exact ⟨fun h => h.1, fun h => ⟨h, fun x hx => ⟨h.1, h.2 x hx⟩⟩⟩

/-- the bridge between a model and a specification `spec` of its decisions (Props/C02Spec, Props/C03Spec): a
stage supplies `attained`, and `lower` for the decision `d` of an optimum -/
theorem Ilp.optimum_is_spec_min {D : Type} (m : Ilp V) (Adm : D → Prop) (spec : D → Rat)
    (attained : ∀ d, Adm d → ∃ τ, m.Sat τ ∧ m.objective τ = spec d)
    (σ : V → Rat) (hopt : ∀ τ, m.Sat τ → m.objective σ ≤ m.objective τ)
    (d : D) (hd : Adm d) (lower : spec d ≤ m.objective σ) :
    m.objective σ = spec d ∧ ∀ d', Adm d' → spec d ≤ spec d' := by
  have le_spec : ∀ d', Adm d' → m.objective σ ≤ spec d' := fun d' hd' => by
    obtain ⟨τ, hτ, e⟩ := attained d' hd'
    exact e ▸ hopt τ hτ
  have heq := le_antisymm (le_spec d hd) lower
  exact ⟨heq, fun d' hd' => heq ▸ le_spec d' hd'⟩

end Aldy
